/-
  `LazyValue` (C20, C04): the byte scanner takes exactly the bytes of the first value and leaves what
  follows untouched; whatever the input, what it returns is a prefix of the input.
-/
import Theorems.Lemmas.Lazy
import Theorems.Lemmas.CodecDec
import Theorems.C03

namespace Amqp.Lazy
open Amqp.Codec Amqp.Gen.Codes

/-- the scanner refuses the described constructor, so what it cuts off `skim` cuts off as a plain value -/
theorem skim_of_skim1 {bs : Bytes} {p : Bytes × Bytes} (h : skim1 bs = .ok p) : skim bs = .ok p := by
  cases bs with
  | nil => exact h
  | cons c t =>
    rw [skim, if_neg, h]
    intro hc
    have hcat : categoryOf c.toNat = none := by rw [hc]; decide
    simp only [skim1, hcat] at h
    split at h <;> simp at h

/-- C20.  From the encoding of a value followed by anything, the scanner behind `LazyValue`
    (`from_slice`, `from_reader`, `LazyValue::from_reader`) cuts off exactly the encoding and
    leaves exactly what followed. -/
theorem lazy_takes_exactly_the_value (v : Value) (hw : WF v) (hl : lazyOk v = true) (e tail : Bytes)
    (he : encode v = some e) : skim (e ++ tail) = .ok (e, tail) := by
  unfold encode at he
  cases v with
  | described d x =>
    simp only [lazyOk, Bool.and_eq_true] at hl
    obtain ⟨a, ha, b, hb, rfl⟩ := enc_described_some.1 he
    have h1 := enc_cuts d hw.2.1 hl.1 a ha (b ++ tail)
    have h2 := enc_cuts x hw.2.2 hl.2 b hb tail
    have h0 : (b8 cDescribedType).toNat = cDescribedType := by decide
    simp only [skim, List.cons_append, List.append_assoc, h0, if_true, h1, h2]
  | null | bool _ | fixed _ _ | var _ _ | list _ | map _ | array _ =>
    exact skim_of_skim1 (enc_cuts _ hw rfl e he tail)

theorem skim1_prefix (bs a r : Bytes) (h : skim1 bs = .ok (a, r)) : bs = a ++ r := by
  cases bs with
  | nil => simp [skim1] at h
  | cons c t =>
    simp only [skim1] at h
    split at h
    · cases h
    · split at h
      · cases h
      · exact ((take?_sat True _ _).ok h).1
      · split at h
        · cases h
        · exact ((take?_sat True _ _).ok h).1

/-- C04.  For every byte string: whatever the scanner returns is a prefix of the input followed by the rest it
    reports — it reads nothing else, and (the model has no recursion beyond descriptor and value) its work is
    bounded by two size fields. -/
theorem lazy_is_a_prefix (bs a r : Bytes) (h : skim bs = .ok (a, r)) : bs = a ++ r := by
  revert h
  fun_cases skim bs with
  | case1 | case2 | case3 => exact nofun
  | case4 c t _ d r1 h1 v r2 h2 =>
    intro h
    cases h
    rw [skim1_prefix _ _ _ h1, skim1_prefix _ _ _ h2, List.append_assoc, List.cons_append]
  | case5 => exact skim1_prefix _ _ _

/-- and the bytes it took decode to the value -/
theorem lazy_then_decode (v : Value) (hw : WF v) (hn : nest v ≤ MAX_NESTING_DEPTH) (hl : lazyOk v = true)
    (e tail : Bytes) (he : encode v = some e) :
    ∃ a, skim (e ++ tail) = .ok (a, tail) ∧ decode a = .ok (v, []) :=
  ⟨e, lazy_takes_exactly_the_value v hw hl e tail he, decode_encode v hw hn e he⟩

example : lazyOk sample = true := by decide

end Amqp.Lazy
