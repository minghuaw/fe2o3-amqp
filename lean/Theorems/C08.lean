/-
  C08 — Sender link credit: never exceed granted credit; blocked sends always wake.
-/
import Theorems.Lemmas.Credit

namespace Amqp.Credit
open Amqp Amqp.Gen.Credit

def History.WF (ops : List Op) : Prop := ∀ op ∈ ops, op.WF

/-- every delivery sent while running `ops` has a delivery-count inside the
    limit `[delivery-count_rcv, +link-credit_rcv)` of the receiver's latest flow -/
def Safe : SSt → Lim → List Op → Prop
  | _, _, [] => True
  | s, l, op :: ops =>
      (∀ t ∈ sentTags (step s op).2, inWindow (limAfter s l op).base (limAfter s l op).len t) ∧
      Safe (step s op).1 (limAfter s l op) ops

/-- a freshly attached sender: no credit yet -/
def attached (dc : Nat) : SSt := { dc := dc, lc := 0, initDc := dc, drain := false }

theorem safe_of_inv (ops : List Op) : ∀ (s : SSt) (l : Lim), CInv s l → History.WF ops → Safe s l ops := by
  induction ops with
  | nil => intro _ _ _ _; trivial
  | cons op ops ih =>
    intro s l h hwf
    obtain ⟨hi, hall⟩ := step_inv s l op h (hwf op (by simp))
    exact ⟨hall, ih _ _ hi (fun o ho => hwf o (by simp [ho]))⟩

/-- For every flow history (grants, reductions, drain, unset delivery-count, delivery-counts
    anywhere including around 2^32) interleaved with sends, no delivery is sent beyond
    `delivery-count_rcv + link-credit_rcv` of the latest flow (serial arithmetic). -/
theorem credit_safe (dc : Nat) (ops : List Op) (h : dc < 4294967296) (hops : History.WF ops) :
    Safe (attached dc) ⟨dc, 0⟩ ops :=
  safe_of_inv ops _ _ ⟨Nat.lt_trans Nat.zero_lt_one (by decide : 1 < 4294967296), Or.inl rfl⟩ hops

-- non-vacuity of `credit_safe`: grants, a delivery-count stated across the wrap, a drain
def sampleOps : List Op :=
  [.flow ⟨none, some 3, false, false⟩, .send, .send, .flow ⟨some 4294967295, some 4, false, true⟩,
   .send, .send, .send, .send, .flow ⟨none, none, true, false⟩]

example : History.WF sampleOps := by
  intro op hop
  simp only [sampleOps, List.mem_cons, List.mem_nil_iff, or_false] at hop
  rcases hop with h | h | h | h | h | h | h | h | h <;> subst h <;> simp [Op.WF]

example : sentTags (run (attached 4294967294) sampleOps).2 = [4294967294, 4294967295, 0, 1, 2] := by decide

/-- generated obligation: the model's `send` is `consume 1` because the source waits for and takes one
    credit per delivery -/
theorem source_one_credit_per_delivery : oneCreditPerDelivery = true := by decide

/-- A send that goes through takes exactly one credit and advances delivery-count by one (mod 2^32); the tag
    it gets is the previous delivery-count.  A send without credit changes nothing. -/
theorem one_credit_per_delivery (s : SSt) :
    (∀ s' tag, consume s 1 = some (s', tag) →
        1 ≤ s.lc ∧ s'.lc = s.lc - 1 ∧ s'.dc = (s.dc + 1) % 4294967296 ∧ tag = s.dc ∧
        s'.initDc = s.initDc ∧ s'.drain = s.drain) ∧
    (consume s 1 = none ↔ s.lc = 0) := by
  rw [consume_eq]
  by_cases h : s.lc < 1
  · simp only [h, if_true]
    exact ⟨fun _ _ h' => (nomatch h'), ⟨fun _ => Nat.lt_one_iff.mp h, fun _ => trivial⟩⟩
  · simp only [h, if_false]
    refine ⟨fun _ _ h' => ?_, ⟨fun h' => (nomatch h'), fun h' => absurd (h' ▸ Nat.zero_lt_one) h⟩⟩
    cases h'
    exact ⟨Nat.not_lt.mp h, rfl, rfl, rfl, rfl, rfl⟩

/-- The non-waiting taker (`TryConsume::try_consume`, used when a dropped transaction rolls back) is the same
    function as the waiting one's `consume_link_credit`: it takes a credit exactly when there is one, and a
    failed attempt changes nothing — in particular the delivery-count, so the receiver's next grant is not
    eaten by a delivery that never happened. -/
theorem try_consume_is_consume (s : SSt) (n : Nat) : tryConsume s n = consume s n := rfl

/-- A flow with the drain flag leaves the sender with zero credit, delivery-count advanced by all the credit
    it had (`grant`: after applying the flow's own grant), and answers with a flow that shows exactly that
    state (credit 0, drain set). -/
theorem drain_exhausts (s : SSt) (f : LFlow) (hd : f.drain = true) :
    (onFlow s f).1.lc = 0 ∧
      (onFlow s f).1.dc = (s.dc + (grant s f).lc) % 4294967296 ∧
      (onFlow s f).2 = some ⟨(onFlow s f).1.dc, 0, true⟩ := by
  simp only [onFlow, hd, sender_on_incoming_flow.cond_if_0, if_true, drained, (grant_fields s f).1]
  exact ⟨rfl, rfl, rfl⟩

theorem source_take_rechecks : takeRechecks = true := by decide

/-- Whatever flows the session task applies while a send that had seen a credit waits for room — a lower
    credit, a delivery-count that uses the credit up, a drain — the send transmits only if, after the last of
    them, there is a credit to take, and it takes exactly that one: the latest flow decides, not the one the
    send saw before it started waiting. -/
theorem no_send_on_revoked_credit (s : SSt) (flows : List LFlow) (s' : SSt) (tag : Nat)
    (h : takeAfterRoomAsSource s flows = (s', some tag)) :
    0 < (takeAfterRoom.replay' s flows).lc ∧ tag = (takeAfterRoom.replay' s flows).dc ∧
    s'.lc = (takeAfterRoom.replay' s flows).lc - 1 := by
  rw [takeAfterRoomAsSource, source_take_rechecks, takeAfterRoom] at h
  cases hc : consume (takeAfterRoom.replay' s flows) 1 with
  | none => rw [hc] at h; cases h
  | some p =>
    rw [hc] at h
    cases h
    obtain ⟨h1, h2, _, h4, _⟩ := (one_credit_per_delivery _).1 _ _ hc
    exact ⟨h1, h4, h2⟩

/-- without the second look (`rechecks = false`) a send transmits on a credit a flow took back -/
example : (takeAfterRoom false { dc := 2, lc := 1, initDc := 0, drain := false }
    [{ dc := some 1, credit := some 1, drain := false, echo := false }]).2 = some 2 := by decide

example : (takeAfterRoomAsSource { dc := 2, lc := 1, initDc := 0, drain := false }
    [{ dc := some 1, credit := some 1, drain := false, echo := false }]).2 = none := by decide

/-! ### flows buffered by a listener until the link is accepted -/

theorem source_replay_oldest_first : replayOldestFirst = true := by decide

theorem onFlow_no_drain (s : SSt) (f : LFlow) (hd : f.drain = false) :
    (onFlow s f).1.dc = s.dc ∧ (onFlow s f).1.initDc = s.initDc := by
  rw [onFlow_fst, hd]
  exact ⟨(grant_fields s f).1, (grant_fields s f).2.1⟩

theorem replay_no_drain (flows : List LFlow) (hd : ∀ f ∈ flows, f.drain = false) :
    ∀ (s : SSt), (replay s flows).dc = s.dc ∧ (replay s flows).initDc = s.initDc := by
  induction flows with
  | nil => intro s; exact ⟨rfl, rfl⟩
  | cons f fs ih =>
    intro s
    have h1 := onFlow_no_drain s f (hd f List.mem_cons_self)
    have h2 := ih (fun g hg => hd g (List.mem_cons_of_mem _ hg)) (onFlow s f).1
    exact ⟨h2.1.trans h1.1, h2.2.trans h1.2⟩

/-- Listener side.  Whatever link flows a receiver pipelined behind its attach (none of them a drain request),
    once the listener has accepted the link its credit is what the LAST of them grants — the same as if only
    that flow had arrived — so the sender transmits no more than the receiver's latest flow allows and does
    not wait when that flow grants credit. -/
theorem latest_flow_decides (s : SSt) (flows : List LFlow) (f : LFlow) (c : Nat) (hc : f.credit = some c)
    (hd : ∀ g ∈ flows, g.drain = false) (hf : f.drain = false) :
    (replayAsSource s (flows ++ [f])).lc = (onFlow s f).1.lc := by
  simp only [replayAsSource, source_replay_oldest_first, if_true, replay, List.foldl_append, List.foldl_cons,
    List.foldl_nil]
  have h := replay_no_drain flows hd s
  have key : ∀ s' : SSt, s'.dc = s.dc → s'.initDc = s.initDc → (onFlow s' f).1.lc = (onFlow s f).1.lc := by
    intro s' h1 h2
    simp only [onFlow_fst, hf, Bool.false_eq_true, if_false, grant, hc, h1, h2]
  exact key _ h.1 h.2

/-- applied newest first (a `pop` loop) the OLDEST flow decides: five credits granted, then withdrawn, stay -/
example : (replay (attached 0) ([⟨none, some 5, false, false⟩, ⟨none, some 0, false, false⟩] : List LFlow).reverse).lc = 5
    ∧ (replayAsSource (attached 0) [⟨none, some 5, false, false⟩, ⟨none, some 0, false, false⟩]).lc = 0 := by decide

/-- generated obligation: `consume` (link/state.rs) calls `notified()` before `consume_link_credit`, hence `first = true` -/
theorem notified_created_before_check : notifiedFirst = true := by decide

/-- In every reachable state of the wait protocol (any interleaving of the waiting task with the session
    task's update / notify steps): if the sender is parked, enough credit is there and the session task has
    finished notifying, then the wake-up is enabled. -/
theorem no_lost_wakeup (credit need : Nat) (as : List Act) :
    let s := nRun notifiedFirst (nInit credit need) as
    ∀ n, s.pc = .parked n → s.need ≤ s.credit → s.pending = false → s.calls > n := by
  rw [notified_created_before_check]
  exact fun n hp hc hpend => (nRun_inv as _ (nInit_inv credit need)).parked_wakes hp hc hpend

/-- three steps do from the farthest state (parked → start → snapped → done) and `done` stays; the bound in
    `wakes` is four -/
theorem wakes_of_inv (t : NSt) (hinv : NInv t) (hc : t.need ≤ t.credit) (hpend : t.pending = false) :
    (cRun true t 4).pc = .done := by
  have hc' : t.credit ≥ t.need := hc
  cases hp : t.pc with
  | start => simp [cRun, cStep, hp, hc']
  | snapped n => simp [cRun, cStep, hp, hc']
  | failed => simp [NInv, hp] at hinv
  | parked n => simp [cRun, cStep, hp, hinv.parked_wakes hp hc hpend, hc']
  | done => simp [cRun, cStep, hp]

/-- From any reachable state in which enough credit has been granted and announced, the waiting send completes
    within four steps of its own task, whatever the interleaving was before. -/
theorem wakes (credit need : Nat) (as : List Act) :
    let s := nRun notifiedFirst (nInit credit need) as
    s.need ≤ s.credit → s.pending = false → (cRun notifiedFirst s 4).pc = .done := by
  rw [notified_created_before_check]
  intro s hc hpend
  exact wakes_of_inv s (nRun_inv as _ (nInit_inv credit need)) hc hpend

/-- With the check before the `Notified` is created (`first = false`) a wake-up is lost: the task parks on a
    future created after the notification and stays parked although the credit is there. -/
theorem old_order_loses_wakeup :
    let s := nRun false (nInit 0 1) [.cStep, .pUpdate 5, .pNotify, .cStep]
    s.pc = .parked 1 ∧ s.need ≤ s.credit ∧ s.pending = false ∧ ¬ s.calls > 1 ∧
      (cRun false s 8).pc = .parked 1 := by decide

end Amqp.Credit
