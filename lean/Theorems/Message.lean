/-
  Messages (C03, C01): a message written section by section is read back as the same message —
  for every combination of the optional sections and every body kind.
-/
import Theorems.Lemmas.Message
import Theorems.Typed

namespace Amqp.Message
open Amqp.Codec Amqp.Typed Amqp.Gen.Codes

/-- the two list-encoded sections carry the codes the message visitor tells them apart by -/
structure MsgEnv (env : List Schema) : Prop where
  header : ∀ s, lookup env "amqp:header:list" = some s → s.code = SKind.header.code
  properties : ∀ s, lookup env "amqp:properties:list" = some s → s.code = SKind.properties.code

def MapOk (v : Value) : Prop := (∃ kvs, v = .map kvs) ∧ WF v

def BodyOk : Body → Prop
  | .value v => WF v
  | .data bs => bs ≠ [] ∧ ∀ b ∈ bs, b.length < 4294967296
  | .sequence ls => ls ≠ [] ∧ ∀ l ∈ ls, WF (.list l)
  | .empty => False

/-- a message of the AMQP type system: typed header and properties, annotation sections that are
    maps, a body of one of the three kinds (`Body::Empty` is not one: see `empty_body_is_written_as_null`) -/
structure MsgOk (env : List Schema) (m : Msg) : Prop where
  header : ∀ h, m.header = some h → TVOk env headerTy h
  properties : ∀ p, m.properties = some p → TVOk env propertiesTy p
  deliveryAnn : ∀ v, m.deliveryAnn = some v → MapOk v
  msgAnn : ∀ v, m.msgAnn = some v → MapOk v
  appProps : ∀ v, m.appProps = some v → MapOk v
  footer : ∀ v, m.footer = some v → MapOk v
  body : BodyOk m.body
  depth : ∀ s ∈ sections env m, nest s ≤ MAX_NESTING_DEPTH

theorem toTree_section (env : List Schema) (hE : EnvOk env) (t : TV) (name : String) (k : SKind)
    (hcode : ∀ s, lookup env name = some s → s.code = k.code) (h : TVOk env (.comp [name]) t) :
    ∃ p, toTree env t = basic k p ∧ fromTree env (.comp [name]) (basic k p) = some t := by
  have hf := fromTree_toTree env hE t _ h
  cases t with
  | absent => simp [TVOk] at h
  | leaf v => obtain ⟨p, hp, _⟩ := h; cases hp
  | comp n fs =>
    obtain ⟨names, hn, hc, hl⟩ := h
    cases hn
    obtain rfl : n = name := by simpa using hc
    cases hlk : lookup env n with
    | none => simp [hlk] at hl
    | some s =>
      have ht : toTree env (.comp n fs) = basic k (.list (dropTrailingNulls (slots env s.fields fs))) := by
        simp only [toTree, hlk, basic, hcode s hlk]
      exact ⟨_, ht, ht ▸ hf⟩

theorem assign_header (env : List Schema) (hE : EnvOk env) (hM : MsgEnv env) (acc : Acc) (t : TV)
    (h : TVOk env headerTy t) : assign env acc (toTree env t) = some { acc with header := some t } := by
  obtain ⟨p, hd, hf⟩ := toTree_section env hE t "amqp:header:list" .header hM.header h
  simp only [basic] at hd hf
  simp only [hd, assign, kindOf_code, headerTy, hf, Option.map_some]

theorem assign_properties (env : List Schema) (hE : EnvOk env) (hM : MsgEnv env) (acc : Acc) (t : TV)
    (h : TVOk env propertiesTy t) : assign env acc (toTree env t) = some { acc with properties := some t } := by
  obtain ⟨p, hd, hf⟩ := toTree_section env hE t "amqp:properties:list" .properties hM.properties h
  simp only [basic] at hd hf
  simp only [hd, assign, kindOf_code, propertiesTy, hf, Option.map_some]

theorem MapOk.isMap {v : Value} (h : MapOk v) : isMap v = true := by
  obtain ⟨⟨kvs, rfl⟩, _⟩ := h
  rfl

theorem classify_bodySections (env : List Schema) (b : Body) (hb : BodyOk b) (acc : Acc) (hacc : acc.body = none) :
    classify env (bodySections b) acc = some { acc with body := some b } := by
  cases b with
  | value v => simp only [bodySections, classify, assign_value]
  | empty => exact hb.elim
  | data bs =>
    cases bs with
    | nil => exact absurd rfl hb.1
    | cons b bs =>
      simp only [bodySections, List.map_cons, classify, assign_data, hacc, addData]
      rw [classify_body env _ .data addData (assign_data env) (fun _ _ => rfl) bs _ [b] rfl]
      rfl
  | sequence ls =>
    cases ls with
    | nil => exact absurd rfl hb.1
    | cons l ls =>
      simp only [bodySections, List.map_cons, classify, assign_sequence, hacc, addSequence]
      rw [classify_body env _ .sequence addSequence (assign_sequence env) (fun _ _ => rfl) ls _ [l] rfl]
      rfl

/-- what the visitor has collected after the sections of a well-formed message -/
theorem classify_sections (env : List Schema) (hE : EnvOk env) (hM : MsgEnv env) (m : Msg) (h : MsgOk env m) :
    classify env (sections env m) {} =
      some { header := m.header, deliveryAnn := m.deliveryAnn, msgAnn := m.msgAnn, properties := m.properties,
             appProps := m.appProps, body := some m.body, footer := m.footer } := by
  simp only [sections, classify_append]
  -- section by section in the order of the standard: each finds its place still empty
  rw [classify_optL env (toTree env) m.header _ (fun a o => { a with header := o })
      (fun t ht => assign_header env hE hM _ t (h.header t ht)) rfl, Option.bind_some]
  rw [classify_optL env (basic .deliveryAnn) m.deliveryAnn _ (fun a o => { a with deliveryAnn := o })
      (fun v hv => (assign_map env _ v (h.deliveryAnn v hv).isMap).1) rfl, Option.bind_some]
  rw [classify_optL env (basic .msgAnn) m.msgAnn _ (fun a o => { a with msgAnn := o })
      (fun v hv => (assign_map env _ v (h.msgAnn v hv).isMap).2.1) rfl, Option.bind_some]
  rw [classify_optL env (toTree env) m.properties _ (fun a o => { a with properties := o })
      (fun t ht => assign_properties env hE hM _ t (h.properties t ht)) rfl, Option.bind_some]
  rw [classify_optL env (basic .appProps) m.appProps _ (fun a o => { a with appProps := o })
      (fun v hv => (assign_map env _ v (h.appProps v hv).isMap).2.2.1) rfl, Option.bind_some]
  rw [classify_bodySections env m.body h.body _ rfl, Option.bind_some]
  rw [classify_optL env (basic .footer) m.footer _ (fun a o => { a with footer := o })
      (fun v hv => (assign_map env _ v (h.footer v hv).isMap).2.2.2) rfl]

theorem WF_basic (k : SKind) (v : Value) (h : WF v) : WF (basic k v) := by
  refine ⟨Or.inr ⟨_, rfl⟩, ⟨be64_length _, by simp⟩, h⟩

theorem sections_WF (env : List Schema) (hE : EnvOk env) (m : Msg) (h : MsgOk env m) :
    ∀ v ∈ sections env m, WF v := by
  have mp : ∀ k (o : Option Value), (∀ v, o = some v → MapOk v) → ∀ v, o = some v → WF (basic k v) :=
    fun k o ho v hv => WF_basic k v (ho v hv).2
  simp only [sections, List.forall_mem_append, List.forall_mem_map, mem_optL]
  refine ⟨⟨⟨⟨⟨⟨fun t ht => WF_toTree env hE t _ (h.header t ht), mp _ _ h.deliveryAnn⟩, mp _ _ h.msgAnn⟩,
    fun t ht => WF_toTree env hE t _ (h.properties t ht)⟩, mp _ _ h.appProps⟩, ?_⟩, mp _ _ h.footer⟩
  have hb := h.body
  cases hm : m.body with
  | value v => rw [hm] at hb; exact List.forall_mem_singleton.mpr (WF_basic _ _ hb)
  | empty => rw [hm] at hb; exact hb.elim
  | data bs =>
    rw [hm] at hb
    exact List.forall_mem_map.mpr fun b hbm => WF_basic _ _ ⟨fun hk => absurd rfl hk, hb.2 b hbm⟩
  | sequence ls => rw [hm] at hb; exact List.forall_mem_map.mpr fun l hlm => WF_basic _ _ (hb.2 l hlm)

/-- C03 / C01: A message of the AMQP type system — any combination of header, delivery-annotations,
    message-annotations, properties, application-properties and footer, with a body of one amqp-value, one
    or more data sections or one or more amqp-sequence sections — written section by section, is read back
    as exactly that message: every section in its place, byte for byte (data), value for value, the
    sections of a batch in their order. -/
theorem message_roundtrip (env : List Schema) (hE : EnvOk env) (hM : MsgEnv env) (m : Msg) (h : MsgOk env m)
    (e : Bytes) (he : encodeMsg env m = some e) : decodeMsg env e = .ok m := by
  have hread : readAll decode (e.length + 1) e = .ok (sections env m) :=
    readAll_encAll decode (sections env m) e (e.length + 1) (fun v hv ev tail hev =>
      have hw := sections_WF env hE m h v hv
      ⟨value_roundtrip v hw (h.depth v hv) ev tail hev, enc_length_pos .none v hw ev hev⟩) he (Nat.le_succ _)
  unfold decodeMsg
  rw [hread]
  simp only [readMsg, classify_sections env hE hM m h, finish, Option.getD]

/-- `Body::Empty` is not a body of the AMQP type system: it is written as an amqp-value section holding null,
    and that is what comes back. -/
theorem empty_body_is_written_as_null (env : List Schema) (hE : EnvOk env) (hM : MsgEnv env) (m : Msg)
    (h : MsgOk env { m with body := .value .null }) (e : Bytes) (he : encodeMsg env { m with body := .empty } = some e) :
    decodeMsg env e = .ok { m with body := .value .null } :=
  message_roundtrip env hE hM _ h e he

/-- generated obligation: in the source's declarations header and properties carry the codes the
    message visitor expects -/
theorem msg_env : MsgEnv env :=
  ⟨env_ok.code_of_lookup (by rw [env_eq]; decide +kernel), env_ok.code_of_lookup (by rw [env_eq]; decide +kernel)⟩

theorem message_roundtrip_source (m : Msg) (h : MsgOk env m) (e : Bytes) (he : encodeMsg env m = some e) :
    decodeMsg env e = .ok m :=
  message_roundtrip env env_ok msg_env m h e he

end Amqp.Message
