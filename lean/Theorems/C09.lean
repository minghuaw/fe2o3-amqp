/-
  C09 — Receiver link credit: accurate accounting, enforcement and replenishment.
-/
import Amqp.RecvCredit
import Amqp.Cancel
import Theorems.Lemmas.U32

namespace Amqp.RecvCredit
open Amqp Amqp.Gen.Credit Amqp.Gen.RecvCredit

/-- what the receiver should report, read off the wire: the sender's
    delivery-count as last learnt (attach or flow), advanced by the deliveries
    that arrived since -/
structure Ghost where
  learnt : Nat
  since : Nat

def Ghost.dc (g : Ghost) : Nat := (g.learnt + g.since) % 4294967296

def ghostAfter (g : Ghost) : Op → Ghost
  | .inFlow (some d) _ => ⟨d, 0⟩
  | .arrive more aborted => if !more && !aborted then ⟨g.learnt, g.since + 1⟩ else g
  | _ => g

def Op.WF : Op → Prop
  | .inFlow (some d) _ => d < 4294967296
  | _ => True

def flowsOf : List Out → List (Nat × Nat)
  | [] => []
  | .flow dc c _ _ :: os => (dc, c) :: flowsOf os
  | _ :: os => flowsOf os

/-- the receiver's delivery-count plus the deliveries it has not yet consumed is
    what the wire says; the relay's counter equals the queue length -/
structure RInv (s : RSt) (g : Ghost) : Prop where
  pend : s.pending = s.queued
  acc : (s.dc + s.queued) % 4294967296 = g.dc

theorem step_inFlow (s : RSt) (dc : Option Nat) (echo : Bool) :
    step s (.inFlow dc echo) =
      match dc with
      | some d => ({ s with dc := wsub32 d s.pending },
                   if echo then [.flow (wsub32 d s.pending) s.lc s.drain false] else [])
      | none => (s, if echo then [.flow s.dc s.lc s.drain false] else []) := by
  cases dc <;> rfl

theorem step_arrive (s : RSt) (more aborted : Bool) :
    step s (.arrive more aborted) =
      if !more && !aborted then ({ s with queued := s.queued + 1, pending := s.pending + 1 }, [])
      else (s, []) := by
  rfl

theorem step_recv (s : RSt) :
    step s .recv =
      if s.queued = 0 then (s, [.nothing])
      else if s.lc = 0 then (s, [.limitExceeded])
      else ({ s with dc := (s.dc + 1) % 4294967296, lc := s.lc - 1, queued := s.queued - 1,
                     pending := s.pending - 1 }, [.delivered]) := by
  simp only [step, onRecv, receiver_consume.cond_if_0, Nat.lt_one_iff, decide_eq_true_eq]
  rfl

/-- A completed delivery is handed to the application iff credit is left; it then takes exactly
    one credit and advances delivery-count by one.  Without credit the result is a transfer-limit
    violation and nothing changes. -/
theorem enforces (s : RSt) (hq : 0 < s.queued) :
    (s.lc = 0 → step s .recv = (s, [.limitExceeded])) ∧
    (0 < s.lc → step s .recv =
        ({ s with dc := (s.dc + 1) % 4294967296, lc := s.lc - 1,
                  queued := s.queued - 1, pending := s.pending - 1 }, [.delivered])) := by
  rw [step_recv, if_neg (Nat.ne_of_gt hq)]
  exact ⟨fun h => if_pos h, fun h => if_neg (Nat.ne_of_gt h)⟩

theorem step_dispose (s : RSt) (k : Nat) :
    step s (.dispose k) =
      match s.mode with
      | .auto n =>
        if s.processed + k ≥ n / 2 then
          ({ s with processed := 0, lc := n, drain := false }, [.flow s.dc n false false])
        else ({ s with processed := s.processed + k }, [])
      | .manual => ({ s with processed := s.processed + k }, []) := by
  simp only [step, topUp, update_credit_if_auto.cond_if_0, decide_eq_true_eq]
  rfl

/-- In mode `Auto n`, as soon as the deliveries disposed since the last refresh reach `n / 2` the receiver
    sends a flow granting `n` again (`n = 1`: after every disposal). -/
theorem auto_topup (s : RSt) (n k : Nat) (hm : s.mode = .auto n) (hk : s.processed + k ≥ n / 2) :
    step s (.dispose k) =
      ({ s with processed := 0, lc := n, drain := false }, [.flow s.dc n false false]) := by
  rw [step_dispose, hm]
  exact if_pos hk

theorem step_setCredit (s : RSt) (c : Nat) :
    step s (.setCredit c) =
      ({ s with processed := 0, lc := c, drain := false,
                mode := modeWith s.mode c },
       [.flow s.dc c false false]) := by
  rfl

theorem step_drain (s : RSt) :
    step s .drain = if s.drain then ({ s with processed := 0 }, [])
      else ({ s with processed := 0, drain := true }, [.flow s.dc s.lc true false]) := by
  rfl

/-- what a step from a state with `RInv` returns: a state with `RInv` again and no flow, or one that
    shows the delivery-count and the credit of that state -/
def Sound (g : Ghost) (r : RSt × List Out) : Prop :=
  RInv r.1 g ∧ flowsOf r.2 ⊆ [(r.1.dc, r.1.lc)]

theorem step_reports (s : RSt) (g : Ghost) (op : Op) (h : RInv s g) : Sound (ghostAfter g op) (step s op) := by
  obtain ⟨hp, ha⟩ := h
  cases op with
  | inFlow dc echo =>
    rw [step_inFlow]
    cases dc with
    | none =>
      cases echo
      · exact ⟨⟨hp, ha⟩, List.nil_subset _⟩
      · exact ⟨⟨hp, ha⟩, List.Subset.refl _⟩
    | some d =>
      -- the deliveries still queued are taken off the count the sender states, and counted again here
      have ha' : (wsub32 d s.pending + s.queued) % 4294967296 = (d + 0) % 4294967296 := by
        rw [hp, wsub32_add_mod, Nat.add_zero]
      cases echo
      · exact ⟨⟨hp, ha'⟩, List.nil_subset _⟩
      · exact ⟨⟨hp, ha'⟩, List.Subset.refl _⟩
  | arrive more aborted =>
    rw [step_arrive, ghostAfter]
    split
    · refine ⟨⟨congrArg (· + 1) hp, ?_⟩, List.nil_subset _⟩
      show (s.dc + (s.queued + 1)) % 4294967296 = (g.learnt + (g.since + 1)) % 4294967296
      rw [← Nat.add_assoc, ← Nat.add_assoc, Nat.add_mod, ha, Ghost.dc, ← Nat.add_mod]
    · exact ⟨⟨hp, ha⟩, List.nil_subset _⟩
  | recv =>
    rw [step_recv]
    split
    · exact ⟨⟨hp, ha⟩, List.nil_subset _⟩
    · split
      · exact ⟨⟨hp, ha⟩, List.nil_subset _⟩
      · refine ⟨⟨congrArg (· - 1) hp, ?_⟩, List.nil_subset _⟩
        show ((s.dc + 1) % 4294967296 + (s.queued - 1)) % 4294967296 = g.dc
        rw [Nat.mod_add_mod, Nat.add_right_comm, Nat.add_assoc, Nat.sub_add_cancel (Nat.pos_of_ne_zero ‹_›), ha]
  | dispose k =>
    rw [step_dispose]
    split
    · split
      · exact ⟨⟨hp, ha⟩, List.Subset.refl _⟩
      · exact ⟨⟨hp, ha⟩, List.nil_subset _⟩
    · exact ⟨⟨hp, ha⟩, List.nil_subset _⟩
  | setCredit c => exact ⟨⟨hp, ha⟩, List.Subset.refl _⟩
  | drain =>
    rw [step_drain]
    split
    · exact ⟨⟨hp, ha⟩, List.nil_subset _⟩
    · exact ⟨⟨hp, ha⟩, List.Subset.refl _⟩

/-- `Reports s g ops`: along the whole history every flow frame emitted carries
    the link-credit the receiver holds at that moment and a delivery-count that,
    together with the deliveries still queued for the application, equals
    (last learnt from the sender) + (deliveries arrived since). -/
def Reports : RSt → Ghost → List Op → Prop
  | _, _, [] => True
  | s, g, op :: ops =>
      (∀ p ∈ flowsOf (step s op).2,
          (p.1 + (step s op).1.queued) % 4294967296 = (ghostAfter g op).dc ∧
          p.2 = (step s op).1.lc) ∧
      Reports (step s op).1 (ghostAfter g op) ops

/-- Every flow the receiver emits is accurate (`Reports`), for every history of sender flows, arriving
    transfer frames, `recv`s, disposals, `set_credit` and `drain` calls. -/
theorem flow_reports (ops : List Op) : ∀ (s : RSt) (g : Ghost), RInv s g →
    (∀ op ∈ ops, op.WF) → Reports s g ops := by
  intro s g h hwf
  -- not needed: a delivery-count stated out of range is reduced mod 2^32 by `wsub32` and by `Ghost.dc` alike
  clear hwf
  fun_induction Reports s g ops with
  | case1 => trivial
  | case2 s g op ops ih =>
    obtain ⟨h1, h2⟩ := step_reports s g op h
    refine ⟨fun p hp => ?_, ih h1⟩
    rw [List.mem_singleton.mp (h2 hp)]
    exact ⟨h1.acc, rfl⟩

/-- with nothing queued the reported delivery-count is exactly
    last-learnt + arrived-since -/
theorem flow_reports_idle (s : RSt) (g : Ghost) (h : RInv s g) (hq : s.queued = 0)
    (hdc : s.dc < 4294967296) : s.dc = g.dc := by
  have := h.acc
  rw [hq] at this
  simpa [Nat.mod_eq_of_lt hdc] using this

theorem attached_inv (idc : Nat) (m : Mode) (h : idc < 4294967296) :
    RInv (attached idc m) ⟨idc, 0⟩ := by
  refine ⟨rfl, ?_⟩
  simp [attached, Ghost.dc]

/-- closed loop in mode `Auto n`: the sender transfers only while the receiver
    has credit, the application disposes only deliveries it has received -/
inductive LoopOp where
  | transfer
  | dispose (k : Nat)

/-- `u` = deliveries handed to the application and not yet disposed -/
def loopStep (s : RSt) (u : Nat) : LoopOp → Option (RSt × Nat)
  | .transfer =>
    -- the sender transfers only while the receiver has credit; the application receives it
    if 0 < s.lc then some ((step (step s (.arrive false false)).1 .recv).1, u + 1) else none
  | .dispose k => if 1 ≤ k ∧ k ≤ u then some ((step s (.dispose k)).1, u - k) else none

def loopRun (s : RSt) (u : Nat) : List LoopOp → Option (RSt × Nat)
  | [] => some (s, u)
  | op :: ops => match loopStep s u op with
    | some (s', u') => loopRun s' u' ops
    | none => none

/-- credit held, disposals counted towards the next top-up and deliveries in the application's hands are
    together at least `n`; a top-up is never overdue -/
structure AutoInv (n : Nat) (s : RSt) (u : Nat) : Prop where
  mode : s.mode = .auto n
  bal : s.lc + s.processed + u ≥ n
  small : s.processed < n / 2 ∨ s.processed = 0

theorem loopStep_inv (n : Nat) (s : RSt) (u : Nat) (op : LoopOp) (h : AutoInv n s u) :
    ∀ s' u', loopStep s u op = some (s', u') → AutoInv n s' u' := by
  obtain ⟨hm, hb, hsm⟩ := h
  fun_cases loopStep s u op with
  | case1 hpos =>
    rintro _ _ ⟨⟩
    show AutoInv n (step { s with queued := s.queued + 1, pending := s.pending + 1 } .recv).1 (u + 1)
    rw [step_recv, if_neg (Nat.succ_ne_zero _), if_neg (Nat.ne_of_gt hpos)]
    refine ⟨hm, ?_, hsm⟩
    show s.lc - 1 + s.processed + (u + 1) ≥ n
    clear hsm
    omega
  | case2 => nofun
  | case3 k hk =>
    rintro _ _ ⟨⟩
    simp only [step_dispose, hm]
    split
    · exact ⟨rfl, Nat.le_add_right _ _, Or.inr rfl⟩
    · refine ⟨rfl, ?_, Or.inl (Nat.lt_of_not_ge ‹_›)⟩
      show s.lc + (s.processed + k) + (u - k) ≥ n
      clear hsm
      omega
  | case4 => nofun

theorem loopRun_inv (n : Nat) (ops : List LoopOp) (s : RSt) (u : Nat) (h : AutoInv n s u) :
    ∀ s' u', loopRun s u ops = some (s', u') → AutoInv n s' u' := by
  fun_induction loopRun s u ops with
  | case1 =>
    rintro _ _ ⟨⟩
    exact h
  | case2 s u op ops s1 u1 hl ih => exact ih (loopStep_inv n s u op h s1 u1 hl)
  | case3 => nofun

/-- state after attaching in mode `Auto n` and the initial `set_credit n` -/
def autoStart (idc n : Nat) : RSt := (step (attached idc (.auto n)) (.setCredit n)).1

/-- In mode `Auto n` (`n ≥ 1`), for every history of a credit-respecting sender and an application that
    disposes only what it received: whenever the receiver's credit is exhausted, more than `n - max 1 (n/2)`
    deliveries are still in the application's hands undisposed; and once the application has disposed of
    everything it got, credit is available (and was announced by a flow, `auto_topup`).  So a sender that
    respects credit is never left without credit by the receiver itself, for streams of any length. -/
theorem no_stall (idc n : Nat) (hn : 1 ≤ n) (ops : List LoopOp) (s : RSt) (u : Nat)
    (hr : loopRun (autoStart idc n) 0 ops = some (s, u)) :
    (u = 0 → 0 < s.lc) ∧ (s.lc = 0 → u + Nat.max 1 (n / 2) > n) := by
  obtain ⟨_, hb, hsm⟩ := loopRun_inv n ops _ _ ⟨rfl, Nat.le_refl n, Or.inr rfl⟩ s u hr
  have hlt : s.processed < Nat.max 1 (n / 2) :=
    hsm.elim (fun h => Nat.lt_of_lt_of_le h (Nat.le_max_right ..))
      (fun h => h ▸ Nat.lt_of_lt_of_le Nat.zero_lt_one (Nat.le_max_left ..))
  have hmax : Nat.max 1 (n / 2) ≤ n := Nat.max_le.mpr ⟨hn, Nat.div_le_self n 2⟩
  generalize Nat.max 1 (n / 2) = m at *
  clear hsm hr
  constructor <;> intro <;> omega

example : loopRun (autoStart 4294967295 4) 0
    [.transfer, .transfer, .dispose 1, .transfer, .dispose 2, .transfer, .transfer] ≠ none := by decide

example : flowsOf (run (attached 4294967295 (.auto 2))
    [.setCredit 2, .arrive false false, .recv, .dispose 1, .arrive true false, .arrive false false,
     .inFlow (some 1) true, .recv]).2
    = [(4294967295, 2), (0, 2), (0, 2)] := by decide

/-- generated obligation: in `update_credit_if_auto` the counter of processed deliveries is reset only after
    the top-up flow has been handed to the session (`send_flow(..).await` comes first).  A disposal or `recv`
    future that is dropped while that flow waits for room therefore leaves the top-up owed and the next call
    issues it; with the reset first the owed credit would be forgotten and a sender that respects credit
    would stall (`no_stall` assumes every owed top-up is eventually issued: hence here, though generated with
    the kernels of `Amqp.Cancel`). -/
theorem topup_owed_until_queued : Amqp.Cancel.topupResetLast = true := by decide

/-- generated obligation behind `attached` and `resume`: the sender's `initial-delivery-count` is taken as it is -/
theorem source_attach_takes_the_senders_count : attachTakesTheSendersCount = true := by decide

/-- generated obligation behind `onRecv`: the credit is taken before the payload is decoded -/
theorem source_credit_taken_before_decoding : creditTakenBeforeDecoding = true := by decide

/-- generated obligation behind `dispose k`: `dispose_all` counts the whole batch towards the top-up -/
theorem source_batch_counts_every_delivery : batchCountsEveryDelivery = true := by decide

/-- After a detach and a resumption (nothing queued) the flow that follows reports exactly the delivery-count
    the sender's new attach carried — not the old count, not the old count carried over on top of it — with
    the credit the receiver holds; the counts of the previous incarnation play no part. -/
theorem resume_reports_the_new_count (s : RSt) (idc : Nat) :
    (resume s idc).2 = [.flow idc (get_link_flow.assign_link_credit_0 s.lc) false false] ∧
    (resume s idc).1.dc = idc := by
  simp [resume, onSetCredit, sendFlow, get_link_flow.assign_drain_0]

/-- and the deliveries received after it are counted from there -/
example : flowsOf (run (resume (run (attached 100 .manual)
      [.setCredit 3, .arrive false false, .arrive false false, .arrive false false, .recv, .recv, .recv]).1 500).1
    [.setCredit 5, .arrive false false, .arrive false false, .recv, .recv, .setCredit 4]).2
    = [(500, 5), (502, 4)] := by decide

end Amqp.RecvCredit
