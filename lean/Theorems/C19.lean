/-
  C19 — SASL: no connection without successful authentication; SCRAM is mutual.

  "This call returned that" is inverted along the definition itself: `fun_cases f …` (`fun_induction` for a loop)
  gives one goal per arm of `f`, with what the arm tested as hypotheses; the arm that can return the value in question
  is named by its position in the definition (`caseN`; for a cascade of early exits it is the last), every other arm
  returns another constructor (`nofun`).
-/
import Theorems.Lemmas.SaslClean

namespace Amqp.Sasl
open Amqp.Frame (Bytes)

theorem splitOn_ne_nil (sep : UInt8) (l : Bytes) : splitOn sep l ≠ [] := by
  fun_cases splitOn sep l
  all_goals exact List.cons_ne_nil _ _

theorem splitOn_append (sep : UInt8) (a b : Bytes) (h : sep ∉ a) :
    splitOn sep (a ++ sep :: b) = a :: splitOn sep b := by
  induction a with
  | nil => rw [List.nil_append, splitOn, if_pos rfl]
  | cons x xs ih =>
    rw [List.cons_append, splitOn, if_neg (List.ne_of_not_mem_cons h).symm, ih (List.not_mem_of_not_mem_cons h)]

theorem splitOn_noSep (sep : UInt8) (l : Bytes) (h : sep ∉ l) : splitOn sep l = [l] := by
  induction l with
  | nil => rfl
  | cons b bs ih =>
    rw [splitOn, if_neg (List.ne_of_not_mem_cons h).symm, ih (List.not_mem_of_not_mem_cons h)]

theorem splitOn_spec (sep : UInt8) (l : Bytes) :
    joinWith sep (splitOn sep l) = l ∧ ∀ p ∈ splitOn sep l, sep ∉ p := by
  fun_induction splitOn sep l with
  | case1 => exact ⟨rfl, List.forall_mem_singleton.mpr List.not_mem_nil⟩
  | case2 bs ih =>
    obtain ⟨p, ps, hs⟩ := List.exists_cons_of_ne_nil (splitOn_ne_nil sep bs)
    rw [hs] at ih ⊢
    exact ⟨congrArg (sep :: ·) ih.1, List.forall_mem_cons.mpr ⟨List.not_mem_nil, ih.2⟩⟩
  | case3 _ bs _ hs => exact absurd hs (splitOn_ne_nil sep bs)
  | case4 b _ h p ps hs ih =>
    rw [hs] at ih
    have ⟨hp, hps⟩ := List.forall_mem_cons.mp ih.2
    refine ⟨?_, List.forall_mem_cons.mpr ⟨List.not_mem_cons_of_ne_of_not_mem (Ne.symm h) hp, hps⟩⟩
    cases ps <;> exact congrArg (b :: ·) ih.1

/-- PLAIN accepts exactly the configured credentials: for a user name and password without NUL the outcome is
    `ok` iff the response is `[authzid] NUL user NUL password`, byte for byte -/
theorem plain_ok_iff (user pass : Bytes) (hu : (0 : UInt8) ∉ user) (hp : (0 : UInt8) ∉ pass) (resp : Option Bytes) :
    plainValidate user pass resp = .ok ↔
      ∃ authzid, (0 : UInt8) ∉ authzid ∧ resp = some (authzid ++ 0 :: user ++ 0 :: pass) := by
  constructor
  · fun_cases plainValidate user pass resp with
    | case2 r z authcid passwd hs hc =>
      intro _
      obtain ⟨rfl, rfl⟩ := (credentials_compared ..).mp hc
      have hspec := splitOn_spec 0 r
      rw [hs] at hspec
      exact ⟨z, hspec.2 z (by simp), by rw [← hspec.1]; simp [joinWith]⟩
    | _ => exact nofun
  · rintro ⟨z, hz, rfl⟩
    have h1 : splitOn 0 (z ++ 0 :: user ++ 0 :: pass) = [z, user, pass] := by
      rw [List.append_assoc, List.cons_append, splitOn_append 0 z _ hz, splitOn_append 0 user _ hu, splitOn_noSep 0 pass hp]
    simp only [plainValidate, h1, (credentials_compared ..).mpr ⟨rfl, rfl⟩, if_true]

/-- `validate_init` answers `ok` or `auth`, never one of the `sys` codes -/
theorem plain_codes (user pass : Bytes) (resp : Option Bytes) :
    plainValidate user pass resp = .ok ∨ plainValidate user pass resp = .auth := by
  fun_cases plainValidate user pass resp
  case case2 => exact Or.inl rfl
  all_goals exact Or.inr rfl

example : plainValidate [103, 117] [112, 119] (some [0, 103, 117, 0, 112, 119]) = .ok := by decide
example : plainValidate [103, 117] [112, 119] (some [97, 0, 103, 117, 0, 112, 119, 0, 120]) = .auth := by decide
example : plainValidate [103, 117] [112, 119] (some [0, 103, 117, 0, 112]) = .auth := by decide

theorem listenLoop_passed_iff {σ : Type} (acc : Acceptor σ) : ∀ (ins : List In) (s : σ),
    (listenLoop acc s ins).2 = .passed ↔ ∃ x, (listenLoop acc s ins).1.getLast? = some (.outcome .ok x) := by
  intro ins s
  -- arms 1–4 fail at once; 5: a challenge, the loop goes on; 6, 7: an outcome on which the table proceeds, fails
  fun_induction listenLoop acc s ins with
  | case5 _ _ _ _ _ _ out _ hl ih =>
    rw [hl] at ih
    cases out <;> simpa [List.getLast?_cons_cons] using ih
  | case6 _ _ _ _ code _ _ hc => simp [(listener_proceeds_iff code).mp hc]
  | case7 _ _ _ _ _ _ _ hc =>
    simp
    rintro rfl
    cases hc
  | _ => simp

/-- no AMQP layer without the SASL header: a peer that starts with the AMQP header (or any other) is turned away
    before a single SASL frame is looked at -/
theorem listen_needs_sasl_header {σ : Type} (acc : Acceptor σ) (s : σ) (h : Hdr) (ins : List In)
    (hp : (listen acc s h ins).2 = .passed) : h = .sasl := by
  cases h <;> simp [listen] at hp ⊢

theorem listenLoop_passed_ask {σ : Type} (acc : Acceptor σ) : ∀ (ins : List In) (s : σ),
    (listenLoop acc s ins).2 = .passed →
      ∃ pre s' f rest r x, ins = pre ++ .frame f :: rest ∧
        (∀ i ∈ pre, ∃ g s1 r1 c, i = .frame g ∧ listenAsk acc s1 g = some (r1, .challenge c)) ∧
        listenAsk acc s' f = some (r, .outcome .ok x) := by
  intro ins s
  fun_induction listenLoop acc s ins with
  | case5 s f _ s1 c hask _ _ hl ih =>
    intro h
    obtain ⟨pre, s', g, rest, r, x, rfl, hpre, hg⟩ := ih (hl ▸ h)
    exact ⟨.frame f :: pre, s', g, rest, r, x, rfl, List.forall_mem_cons.mpr ⟨⟨f, s, s1, c, rfl, hask⟩, hpre⟩, hg⟩
  | case6 s f rest s1 code x hask hc =>
    intro _
    cases (listener_proceeds_iff code).mp hc
    exact ⟨[], s, f, rest, s1, x, rfl, nofun, hask⟩
  | _ => exact nofun

/-- the frame that lets the loop pass is an init or a response which the acceptor, in some state `s'` (not tied to
    the run here; see `listenLoop_passed_ask`), answers with outcome `ok`; before it come init and response frames
    only: a frame of another kind, an undecodable one or the end of the stream ends the loop in failure -/
theorem listenLoop_passed {σ : Type} (acc : Acceptor σ) : ∀ (ins : List In) (s : σ),
    (listenLoop acc s ins).2 = .passed →
      ∃ pre s' f rest x, ins = pre ++ .frame f :: rest ∧
        (∀ i ∈ pre, ∃ g, i = .frame g ∧ ∀ k, g ≠ .other k) ∧
        ((∃ m r, f = .init m r ∧ (acc.onInit s' m r).2 = .outcome .ok x) ∨
         (∃ r, f = .response r ∧ (acc.onResponse s' r).2 = .outcome .ok x)) := by
  intro ins s h
  obtain ⟨pre, s', f, rest, r, x, he, hpre, hf⟩ := listenLoop_passed_ask acc ins s h
  refine ⟨pre, s', f, rest, x, he, ?_, ?_⟩
  · intro i hi
    obtain ⟨g, s1, r1, c, rfl, hg⟩ := hpre i hi
    exact ⟨g, rfl, fun k hk => by rw [hk, listenAsk_eq] at hg; cases hg⟩
  · rw [listenAsk_eq] at hf
    cases f with
    | init m y => exact Or.inl ⟨m, y, rfl, congrArg Prod.snd (Option.some.inj hf)⟩
    | response y => exact Or.inr ⟨y, rfl, congrArg Prod.snd (Option.some.inj hf)⟩
    | other k => cases hf

/-- with the PLAIN acceptor the AMQP layer is reached only by a peer whose first SASL frame is an init
    carrying exactly the configured credentials -/
theorem plain_listener_sound (user pass : Bytes) (hu : (0 : UInt8) ∉ user) (hp : (0 : UInt8) ∉ pass)
    (h : Hdr) (ins : List In) (hpass : (listen (plainAcceptor user pass) () h ins).2 = .passed) :
    h = .sasl ∧ ∃ m authzid rest, (0 : UInt8) ∉ authzid ∧
      ins = .frame (.init m (some (authzid ++ 0 :: user ++ 0 :: pass))) :: rest := by
  obtain rfl := listen_needs_sasl_header _ _ _ _ hpass
  refine ⟨rfl, ?_⟩
  obtain ⟨pre, s', f, rest, r, x, rfl, hpre, hf⟩ := listenLoop_passed_ask _ ins _ hpass
  -- the PLAIN acceptor never challenges, so the frame answered `ok` is the first
  cases pre with
  | cons i pre =>
    obtain ⟨g, s1, r1, c, _, hg⟩ := hpre i (by simp)
    rw [listenAsk_eq] at hg
    cases g <;> cases hg
  | nil =>
    rw [listenAsk_eq] at hf
    cases f with
    | init m y =>
      have hy := ServerFrame.outcome.inj (congrArg Prod.snd (Option.some.inj hf))
      obtain ⟨z, hz, rfl⟩ := (plain_ok_iff user pass hu hp y).mp hy.1
      exact ⟨m, z, rest, hz, rfl⟩
    | _ => cases hf

/-- and such a peer is let in -/
theorem plain_listener_complete (user pass authzid m : Bytes) (hu : (0 : UInt8) ∉ user) (hp : (0 : UInt8) ∉ pass)
    (hz : (0 : UInt8) ∉ authzid) (rest : List In) :
    (listen (plainAcceptor user pass) () .sasl (.frame (.init m (some (authzid ++ 0 :: user ++ 0 :: pass))) :: rest)).2 = .passed := by
  have := (plain_ok_iff user pass hu hp (some (authzid ++ 0 :: user ++ 0 :: pass))).mpr ⟨authzid, hz, rfl⟩
  simp only [listen, listenLoop_eq, listenLoop', plainAcceptor, this]

theorem scram_init_never_ok (mech : Bytes) (creds : Bytes → Option Stored) (sn : Bytes) (s : SrvState) (m : Bytes)
    (resp : Option Bytes) (x : Option Bytes) : (scramOnInit mech creds sn s m resp).2 ≠ .outcome .ok x := by
  fun_cases scramOnInit mech creds sn s m resp
  all_goals exact nofun

/-- `hs`: every refusing arm of `on_init` returns the state it was given, so a `firstSent` state that was not there
    before holds what `serverFirst` made of this init's response and the server nonce `sn` -/
theorem scram_firstSent_origin (mech : Bytes) (creds : Bytes → Option Stored) (sn : Bytes) (s : SrvState) (m : Bytes)
    (resp : Option Bytes) (user bare nonce msg : Bytes)
    (h : (scramOnInit mech creds sn s m resp).1 = .firstSent user bare nonce msg) (hs : s ≠ .firstSent user bare nonce msg) :
    m = mech ∧ ∃ cf, resp = some cf ∧ serverFirst creds sn cf = some (user, bare, nonce, msg) := by
  revert h
  fun_cases scramOnInit mech creds sn s m resp with
  | case4 hm cf _ _ _ _ hsf =>
    intro h
    cases h
    exact ⟨by simpa using hm, cf, rfl, hsf⟩
  | _ => exact fun h => absurd h hs

theorem serverFirst_nonce (creds : Bytes → Option Stored) (sn cf user bare nonce msg : Bytes)
    (h : serverFirst creds sn cf = some (user, bare, nonce, msg)) :
    ∃ cnonce st, nonce = cnonce ++ sn ∧ creds user = some st ∧
      msg = str "r=" ++ nonce ++ comma :: str "s=" ++ b64Encode st.salt ++ comma :: str "i=" ++ natDigits st.iterations ∧
      stripPrefix (str "n,,") cf = some bare := by
  revert h
  fun_cases serverFirst creds sn cf with
  | case4 _ _ hb _ _ cn _ _ st hst =>
    rw [Option.some.injEq, Prod.mk.injEq, Prod.mk.injEq, Prod.mk.injEq]
    rintro ⟨rfl, rfl, rfl, rfl⟩
    exact ⟨cn, st, rfl, hst, rfl, hb⟩
  | _ => exact nofun

/-- what a verified client-final proves: `on_response` answers `ok` only in a state `firstSent user bare nonce msg`,
    to a message that names that state's nonce, binds the channel as `n,,`, and whose proof, with
    `HMAC(StoredKey, AuthMessage)` over that state's client-first-bare, its server-first and the message itself,
    gives a key that hashes to the stored key of `user` -/
theorem scram_response_ok (cr : Crypto) (creds : Bytes → Option Stored) (s : SrvState) (r : Bytes) (x : Option Bytes)
    (h : (scramOnResponse cr creds s r).2 = .outcome .ok x) :
    ∃ user bare nonce msg st proofB64 proof clientKey,
      s = .firstSent user bare nonce msg ∧ creds user = some st ∧
      ((splitOn comma r).head? >>= stripPrefix (str "c=")) >>= b64Decode = some (str "n,,") ∧
      (splitOn comma r)[1]? >>= stripPrefix (str "r=") = some nonce ∧
      (splitOn comma r).getLast? >>= stripPrefix (str "p=") = some proofB64 ∧
      b64Decode proofB64 = some proof ∧
      xorBytes proof (cr.hmac st.storedKey (authMessage bare msg (r.take (r.length - (proofB64.length + 2 + 1))))) = some clientKey ∧
      cr.h clientKey = st.storedKey ∧
      x = some (str "v=" ++ b64Encode (cr.hmac st.serverKey (authMessage bare msg (r.take (r.length - (proofB64.length + 2 + 1)))))) := by
  revert h
  fun_cases scramOnResponse cr creds s r with
  | case2 user bare nonce msg st hst v hv =>
    intro h
    cases h
    revert hv
    fun_cases serverFinal cr r nonce bare msg st with
    | case10 _ _ _ hcb hcbd _ hn hnn pb hpb _ _ _ proof hproof ck hck hh =>
      intro h
      cases h
      exact ⟨user, bare, nonce, msg, st, pb, proof, ck, rfl, hst, by rw [hcb]; exact Decidable.not_not.mp hcbd,
        by rw [hn, Decidable.not_not.mp hnn], hpb, hproof, hck, Decidable.not_not.mp hh, rfl⟩
    | _ => exact nofun
  | _ => exact nofun

/-- a replayed client-final does not verify against another exchange: it would have to name that
    exchange's nonce, which ends with a server nonce drawn afresh -/
theorem scram_replay_needs_same_nonce (cr : Crypto) (creds : Bytes → Option Stored) (user bare nonce msg user' bare' nonce' msg' : Bytes)
    (r : Bytes) (x x' : Option Bytes)
    (h : (scramOnResponse cr creds (.firstSent user bare nonce msg) r).2 = .outcome .ok x)
    (h' : (scramOnResponse cr creds (.firstSent user' bare' nonce' msg') r).2 = .outcome .ok x') : nonce = nonce' := by
  obtain ⟨_, _, _, _, _, _, _, _, hs, _, _, hn, _⟩ := scram_response_ok cr creds _ r x h
  obtain ⟨_, _, _, _, _, _, _, _, hs', _, _, hn', _⟩ := scram_response_ok cr creds _ r x' h'
  cases hs
  cases hs'
  exact Option.some.inj (hn.symm.trans hn')

/-- with the SCRAM acceptor the AMQP layer is reached only through a response frame that `on_response` answers `ok`
    in some state `firstSent …` (that it is the state the run had reached is not part of the statement) -/
theorem scram_listener_sound (cr : Crypto) (mech : Bytes) (creds : Bytes → Option Stored) (nonces : List Bytes)
    (h : Hdr) (ins : List In)
    (hpass : (listen (scramAcceptor cr mech creds) (.initial, nonces) h ins).2 = .passed) :
    h = .sasl ∧ ∃ (pre : List In) (s' : SrvState × List Bytes) (r : Bytes) (rest : List In) (x : Option Bytes), ins = pre ++ .frame (.response r) :: rest ∧
      (scramOnResponse cr creds s'.1 r).2 = .outcome .ok x ∧ ∃ user bare nonce msg, s'.1 = SrvState.firstSent user bare nonce msg := by
  obtain rfl := listen_needs_sasl_header _ _ _ _ hpass
  refine ⟨rfl, ?_⟩
  obtain ⟨pre, s', f, rest, x, he, _, ⟨m, r, rfl, hok⟩ | ⟨r, rfl, hok⟩⟩ := listenLoop_passed _ ins _ hpass
  · exact absurd hok (scram_init_never_ok mech creds _ s'.1 m r x)
  · simp only [scramAcceptor] at hok
    obtain ⟨u, b, n, ms, _, _, _, _, hs, _⟩ := scram_response_ok cr creds s'.1 r x hok
    exact ⟨pre, s', r, rest, x, he, hok, u, b, n, ms, hs⟩

theorem client_refused_on_non_ok (cr : Crypto) (mech user pw : Bytes) (s : CliState) (nonces : List Bytes)
    (code : Code) (extra : Option Bytes) (hc : code ≠ .ok) :
    scramCliStep cr mech user pw s nonces (.frame (.outcome code extra)) = .done (.refused code) := by
  rw [scramCliStep_eq]
  cases code
  case ok => exact absurd rfl hc
  all_goals rfl

theorem client_authenticated_iff (cr : Crypto) (mech user pw : Bytes) (s : CliState) (nonces : List Bytes) (i : SrvIn) :
    scramCliStep cr mech user pw s nonces i = .done .authenticated ↔
      ∃ sf sig, i = .frame (.outcome .ok (some sf)) ∧ s = .finalSent sig ∧ validServerFinal sf sig = true := by
  rw [scramCliStep_eq]
  constructor
  · fun_cases scramCliStep' cr mech user pw s nonces i with
    | case10 sf sig hv => exact fun _ => ⟨sf, sig, rfl, rfl, hv⟩
    | _ => exact nofun
  · rintro ⟨sf, sig, rfl, rfl, hv⟩
    exact if_pos hv

theorem client_finalSent_origin (cr : Crypto) (mech user pw : Bytes) (s : CliState) (nonces nonces' : List Bytes)
    (i : SrvIn) (sig : Bytes) (o : CliOut) (h : scramCliStep cr mech user pw s nonces i = .cont (.finalSent sig) nonces' o) :
    ∃ c nonce bare final, i = .frame (.challenge c) ∧ s = .firstSent nonce bare ∧ validUtf8 c = true ∧
      clientFinal cr nonce pw c bare = some (final, sig) ∧ o = .response final := by
  rw [scramCliStep_eq] at h
  revert h
  fun_cases scramCliStep' cr mech user pw s nonces i with
  | case8 c hu nonce bare final _ hcf =>
    intro h
    cases h
    exact ⟨c, nonce, bare, final, rfl, rfl, by simpa using hu, hcf, rfl⟩
  | _ => exact nofun

/-- the expected signature is `HMAC(HMAC(SaltedPassword, "Server Key"), AuthMessage)` over the client-first sent, the
    challenge as received and the client-final sent, with salt and iteration count taken from the challenge,
    whose nonce extends the client's -/
theorem clientFinal_spec (cr : Crypto) (cnonce pw c bare final sig : Bytes)
    (h : clientFinal cr cnonce pw c bare = some (final, sig)) :
    ∃ nonce salt iters salted,
      stripPrefix (str "r=") ((splitOn comma c).headD []) = some nonce ∧ startsWith nonce cnonce = true ∧
      ((splitOn comma c)[1]? >>= stripPrefix (str "s=")) >>= b64Decode = some salt ∧
      ((splitOn comma c)[2]? >>= stripPrefix (str "i=")) >>= parseU32 = some iters ∧
      cr.hi pw salt iters = some salted ∧
      sig = cr.hmac (cr.hmac salted (str "Server Key")) (authMessage bare c (str "c=biws,r=" ++ nonce)) := by
  revert h
  fun_cases clientFinal cr cnonce pw c bare with
  | case9 _ _ _ nonce hn hsw salt hs iters hi salted hsp =>
    intro h
    exact ⟨nonce, salt, iters, salted, hn, by simpa using hsw, hs, hi, hsp, (congrArg (·.2) (Option.some.inj h)).symm⟩
  | _ => exact nofun

/-- the client reports success only after an outcome `ok` with a server-final that `validate_server_final` accepts
    for some signature (which one: `client_authenticated_iff`, `client_finalSent_origin`) -/
theorem client_sound (cr : Crypto) (mech user pw : Bytes) (ins : List SrvIn) (nonces : List Bytes)
    (h : (scramClientLoop cr mech user pw .initial nonces ins).2 = .authenticated) :
    ∃ pre sf sig rest, ins = pre ++ .frame (.outcome .ok (some sf)) :: rest ∧ validServerFinal sf sig = true := by
  -- the verdict is that of the step at which the loop ends, whatever the state it began in
  generalize CliState.initial = s at h
  fun_induction scramClientLoop cr mech user pw s nonces ins with
  | case1 => cases h
  | case2 s n i rest _ hstep =>
    cases h
    obtain ⟨sf, sig, rfl, _, hv⟩ := (client_authenticated_iff cr mech user pw s n i).mp hstep
    exact ⟨[], sf, sig, rest, rfl, hv⟩
  | case3 _ _ i _ _ _ _ _ _ _ hl ih =>
    obtain ⟨pre, sf, sig, rest, rfl, hv⟩ := ih (hl ▸ h)
    exact ⟨i :: pre, sf, sig, rest, rfl, hv⟩

/-- straight from `initial` an outcome `ok` is an error, whatever it carries: the challenge cannot be skipped -/
theorem client_cannot_skip_challenge (cr : Crypto) (mech user pw : Bytes) (nonces : List Bytes) (ms : List Bytes)
    (extra : Option Bytes) (rest : List SrvIn) (hm : ms.contains mech = true) :
    (scramClientLoop cr mech user pw .initial nonces (.frame (.mechanisms ms) :: .frame (.outcome .ok extra) :: rest)).2 = .error := by
  simp only [scramClientLoop, scramCliStep_eq, scramCliStep', hm, if_true]

theorem client_rejects_extra_challenge (cr : Crypto) (mech user pw : Bytes) (sig : Bytes) (nonces : List Bytes) (c : Bytes) :
    scramCliStep cr mech user pw (.finalSent sig) nonces (.frame (.challenge c)) = .done .error := by
  rw [scramCliStep_eq]
  simp only [scramCliStep', ite_self]

/-- PLAIN / ANONYMOUS on the client: success only on outcome `ok` -/
theorem simple_client_sound (mech : Bytes) (resp : Option Bytes) : ∀ (ins : List SrvIn),
    (simpleClientLoop mech resp ins).2 = .authenticated → ∃ pre x rest, ins = pre ++ .frame (.outcome .ok x) :: rest := by
  intro ins
  fun_induction simpleClientLoop mech resp ins with
  | case4 _ ms _ _ _ hl _ ih =>
    intro h
    obtain ⟨pre, x, r, rfl⟩ := ih (hl ▸ h)
    exact ⟨.frame (.mechanisms ms) :: pre, x, r, rfl⟩
  | case6 rest code x hc =>
    intro _
    cases (client_proceeds_iff code).mp hc
    exact ⟨[], x, rest, rfl⟩
  | case8 _ _ h1 h2 =>
    -- the arm for every other pair of frame and table entry: the two pairs above are excluded by `h1`, `h2`
    split
    · exact (h1 _ rfl ‹_›).elim
    · exact (h2 _ _ rfl ‹_›).elim
    · exact nofun
  | _ => exact nofun

end Amqp.Sasl
