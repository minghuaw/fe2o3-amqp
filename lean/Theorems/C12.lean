/-
  C12 — connection lifecycle.  Theorems about `Amqp.Conn` (the engine model) on top of the
  transition tables generated from connection/mod.rs and connection/engine.rs.
  They hold for every sequence of events (peer frames legal or not, local requests,
  heartbeats, end of stream), of any length.  At the end (`Amqp.CloseFlush`): what the sessions have
  queued when the peer's close is taken up is written before the answering close.
-/
import Amqp.Conn
import Amqp.CloseFlush
import Theorems.Lemmas.List

namespace Amqp.Conn
open Amqp.Gen.Fsm

def Out.isClose : Out → Bool
  | .close _ => true
  | _ => false

def Out.onWire : Out → Bool
  | .toSession _ => false
  | _ => true

def wire (os : List Out) : List Out := os.filter Out.onWire

/-- connection states the client reaches (`ConnectionEngine::open` does the header exchange
    before the open, so the pipelined states do not occur) -/
def RS : CState → Bool
  | .openSent | .opened | .closePipe | .closeSent | .discarding | .ended => true
  | _ => false

/-- the close frame has been written (or the engine has stopped): nothing more may be written -/
def Quiet (s : St) : Prop :=
  s.phase = .stopped ∨ s.cs = .closePipe ∨ s.cs = .closeSent ∨ s.cs = .discarding ∨ s.cs = .ended

theorem wire_nil : wire [] = [] := rfl
theorem wire_append (a b : List Out) : wire (a ++ b) = wire a ++ wire b := by simp [wire]

/-- `release` touches the channel bookkeeping only -/
theorem release_keeps (s : St) (oc : Nat) : (release s oc).cs = s.cs ∧ (release s oc).phase = s.phase := by
  unfold release
  split <;> exact ⟨rfl, rfl⟩

/-- the state that `stepRunning` goes on with after a local session's frame -/
theorem sessFrame_keeps (s : St) (ch : Nat) (ie : Bool) :
    let s0 := if ie then release { s with endSent := ch :: s.endSent } ch else s
    s0.cs = s.cs ∧ s0.phase = s.phase := by
  split
  · exact release_keeps ..
  · exact ⟨rfl, rfl⟩

/-- the connection states after our close frame -/
def InQ (c : CState) : Prop := c = .closePipe ∨ c = .closeSent ∨ c = .discarding ∨ c = .ended

def Closing (s : St) : Prop := s.phase = .stopped ∨ InQ s.cs

/-- states the engine is in between events once the connection is open -/
def Inv (s : St) : Prop := Closing s ∨ (s.cs = .opened ∧ s.phase = .running)

/-- frames that are illegal on an opened connection -/
def Illegal (s : St) : PFrame → Prop
  | .open_ => True
  | .begin _ none => True
  | .begin _ (some oc) => oc ∉ s.outCh
  | .session ch => (s.inCh.any fun p => p.1 == ch) = false
  | .end_ ch => (s.inCh.any fun p => p.1 == ch) = false
  | _ => False

/-- a close frame, if any, is the last thing written -/
def CloseLast : List Out → Prop
  | [] => True
  | o :: os => (o.isClose = true → os = []) ∧ CloseLast os

theorem settle_eq (s : St) : ∃ p, settle s = { s with phase := p } := by
  unfold settle; split <;> exact ⟨_, rfl⟩
theorem settle_of_ne {s : St} (h : s.cs ≠ .ended) : settle s = s := if_neg h

theorem onIncoming_dropped {s : St} {f : PFrame} (hd : Conn.on_incoming_drops s.cs = true) (hf : f.isClose = false) :
    onIncoming s f = (s, [], none) := by
  unfold onIncoming
  rw [if_pos ⟨hd, hf⟩]

/-! The facts about the generated tables are proved by evaluating them on the four closing states, so
that a change of a table in the source shows up here. -/

/-- an outcome that puts nothing on the wire and is a closing state -/
structure Silent (r : St × List Out) : Prop where
  out : wire r.2 = []
  cs : InQ r.1.cs

theorem InQ.discarding : InQ .discarding := .inr (.inr (.inl rfl))
theorem InQ.ended : InQ .ended := .inr (.inr (.inr rfl))

section
variable {c : CState} (h : InQ c)
include h

theorem InQ.rs : RS c = true := by
  rcases h with rfl | rfl | rfl | rfl <;> rfl

theorem InQ.on_incoming_open {c' : CState} (ho : Conn.on_incoming_open c = some c') : InQ c' := by
  rcases h with rfl | rfl | rfl | rfl <;> cases ho
  exact .inr (.inl rfl)

theorem InQ.on_incoming_close {c' : CState} (ho : Conn.on_incoming_close c = some c') : c' = .ended := by
  rcases h with rfl | rfl | rfl | rfl <;> cases ho <;> rfl

theorem InQ.tables :
    Conn.on_incoming_begin c = none ∧ Conn.on_incoming_end c = none ∧ Conn.forward_to_session_arm c = 1 ∧
    Conn.on_outgoing_session_frames_arm c = 1 ∧ Conn.on_control_close_ignored c = true ∧
    (Conn.on_heartbeat_arm c = 0 ∨ Conn.on_heartbeat_arm c = 1) := by
  rcases h with rfl | rfl | rfl | rfl <;> decide

end

section
variable {s : St} (h : InQ s.cs)
include h

theorem closeConnection_inQ (we : Bool) :
    ∃ p, closeConnection s we = ({ s with phase := p }, [], none) := by
  unfold closeConnection
  rcases h with h | h | h | h <;> rw [h] <;> exact ⟨_, rfl⟩

theorem onError_inQ (e : Err) : Silent (onError s e) := by
  obtain ⟨p, hp⟩ := closeConnection_inQ h true
  obtain ⟨q, hq⟩ := closeConnection_inQ h false
  cases e <;> simp only [onError, hp, hq] <;> exact ⟨rfl, h⟩

theorem onIncoming_inQ (f : PFrame) : ∃ c err, InQ c ∧ onIncoming s f = ({ s with cs := c }, [], err) := by
  obtain ⟨hb, he, hf, _⟩ := h.tables
  -- `split` is slow on a term of this size
  by_cases hd : Conn.on_incoming_drops s.cs = true ∧ f.isClose = false
  · exact ⟨_, _, h, onIncoming_dropped hd.1 hd.2⟩
  · unfold onIncoming
    rw [if_neg hd]
    cases f with
    | open_ =>
      cases ho : Conn.on_incoming_open s.cs with
      | none => exact ⟨_, _, h, rfl⟩
      | some c => exact ⟨_, _, h.on_incoming_open ho, rfl⟩
    | close we =>
      cases ho : Conn.on_incoming_close s.cs with
      | none => exact ⟨_, _, h, rfl⟩
      | some c => cases h.on_incoming_close ho; exact ⟨_, _, .ended, rfl⟩
    | begin ch rc => rw [hb]; exact ⟨_, _, h, rfl⟩
    | session ch => rw [hf]; exact ⟨_, _, h, rfl⟩
    | end_ ch => rw [he]; exact ⟨_, _, h, rfl⟩
    | empty => exact ⟨_, _, h, rfl⟩

theorem stepRunning_inQ (e : Event) : Silent (stepRunning s e) := by
  obtain ⟨_, _, _, ho, hc, hh⟩ := h.tables
  cases e with
  | peer f =>
    obtain ⟨c, err, hc', heq⟩ := onIncoming_inQ h f
    simp only [stepRunning, heq]
    cases err with
    | none =>
      obtain ⟨p, hp⟩ := settle_eq { s with cs := c }
      rw [hp]
      exact ⟨rfl, hc'⟩
    | some e => exact onError_inQ (s := { s with cs := c }) hc' e
  | eof =>
    simp only [stepRunning, Prod.eta]
    split
    · exact onError_inQ h _
    · exact ⟨rfl, h⟩
  | ctlClose we => simp only [stepRunning, hc]; exact ⟨rfl, h⟩
  | ctlBegin =>
    simp only [stepRunning, ho, Nat.reduceEqDiff, ↓reduceIte, Prod.eta]
    split
    · exact ⟨rfl, h⟩
    · split
      · exact ⟨rfl, h⟩
      -- `by exact`: the state that `onError` is applied to is read off the goal first
      · exact onError_inQ (by exact h) _
  | sessFrame ch ie =>
    have h0 := (sessFrame_keeps s ch ie).1.symm ▸ h
    simp only [stepRunning, ho, Nat.reduceEqDiff, ↓reduceIte, Prod.eta]
    split
    · exact ⟨rfl, h0⟩
    · exact onError_inQ h0 _
  | heartbeat =>
    simp only [stepRunning]
    rcases hh with hh | hh <;> rw [hh] <;> exact ⟨rfl, h⟩

theorem stepWait_inQ (d : Bool) (e : Event) : Silent (stepWait s d e) := by
  cases e with
  | peer f =>
    obtain ⟨c, err, hc, heq⟩ := onIncoming_inQ h f
    cases f with
    | close we =>
      rw [stepWait]
      cases ho : Conn.on_incoming_close s.cs with
      | none => exact ⟨rfl, h⟩
      | some c =>
        cases h.on_incoming_close ho
        cases we <;> exact ⟨rfl, .ended⟩
    | _ =>
      simp only [stepWait, heq]
      split
      · exact ⟨rfl, h⟩
      · cases err <;> exact ⟨rfl, hc⟩
  | _ => exact ⟨rfl, h⟩

end

theorem quiet_stepRunning (s : St) (e : Event) (hp : s.phase = .running)
    (hq : s.cs = .closePipe ∨ s.cs = .closeSent ∨ s.cs = .discarding ∨ s.cs = .ended) :
    wire (stepRunning s e).2 = [] ∧ Quiet (stepRunning s e).1 ∧ RS (stepRunning s e).1.cs = true :=
  have ⟨a, b⟩ := stepRunning_inQ hq e
  ⟨a, .inr b, b.rs⟩

/-- the errors that `on_error` answers by closing the connection with an error -/
def Err.isLocal : Err → Bool
  | .illegalState | .notFound | .notImplemented => true
  | _ => false

section
variable {s : St} (hc : s.cs = .opened)
include hc

theorem opened_tables :
    eofIsError s.cs = true ∧ Conn.allocate_session s.cs = some .opened ∧
    Conn.on_outgoing_session_frames_arm s.cs = 0 ∧ Conn.on_heartbeat_arm s.cs = 2 := by
  rw [hc]
  exact ⟨rfl, rfl, rfl, rfl⟩

theorem closeConnection_opened (we : Bool) :
    closeConnection s we =
      ({ s with cs := if we then .discarding else .closeSent, phase := .waitClose false }, [.close we], none) := by
  unfold closeConnection
  rw [hc]
  cases we <;> rfl

theorem onError_opened {e : Err} (he : e.isLocal = true) :
    onError s e = ({ s with cs := .discarding, phase := .waitClose false, res := some e.res }, [.close true]) := by
  cases e <;> cases he <;> (simp only [onError, closeConnection_opened hc]; rfl)

theorem onIncoming_opened {f : PFrame} (hf : f.isClose = false) :
    (∃ e, e.isLocal = true ∧ onIncoming s f = (s, [], some e)) ∨
    (¬ Illegal s f ∧ ∃ s' os, onIncoming s f = (s', os, none) ∧ wire os = [] ∧ s'.cs = .opened ∧ s'.phase = s.phase) := by
  unfold onIncoming
  rw [hc, if_neg fun h => Bool.noConfusion h.1]
  cases f with
  | close we => cases hf
  | open_ => exact .inl ⟨.illegalState, rfl, rfl⟩
  | empty => exact .inr ⟨id, _, _, rfl, rfl, hc, rfl⟩
  | begin ch rc =>
    cases rc with
    | none => exact .inl ⟨.notImplemented, rfl, rfl⟩
    | some oc =>
      simp only [Conn.on_incoming_begin]
      split
      next h => exact .inr ⟨fun hi => hi (by simpa using h), _, _, rfl, rfl, rfl, rfl⟩
      · exact .inl ⟨.notFound, rfl, rfl⟩
  | session ch =>
    simp only [Conn.forward_to_session_arm, ↓reduceIte]
    split
    next h => exact .inr ⟨fun hi => Bool.noConfusion (h.symm.trans hi), _, _, rfl, rfl, hc, rfl⟩
    · exact .inl ⟨.notFound, rfl, rfl⟩
  | end_ ch =>
    simp only [Conn.on_incoming_end]
    split
    next p h =>
      refine .inr ⟨fun hi => ?_, _, _, rfl, rfl, ?_, ?_⟩
      · exact List.any_eq_false.mp hi p (List.mem_of_find?_eq_some h) (List.find?_some h :)
      · exact (release_keeps ..).1
      · exact (release_keeps ..).2
    · exact .inl ⟨.notFound, rfl, rfl⟩

theorem stepRunning_illegal {f : PFrame} (hi : Illegal s f) :
    ∃ r, stepRunning s (.peer f) =
      ({ s with cs := .discarding, phase := .waitClose false, res := some r }, [.close true]) := by
  have hf : f.isClose = false := by cases f <;> first | rfl | cases hi
  obtain ⟨e, he, h⟩ | ⟨hn, _⟩ := onIncoming_opened hc hf
  · exact ⟨e.res, by simp only [stepRunning, h, onError_opened hc he]; rfl⟩
  · exact absurd hi hn

theorem stepRunning_peer_close_opened (we : Bool) :
    stepRunning s (.peer (.close we)) =
      ({ s with cs := .ended, phase := .stopped, sessClosed := true,
                res := some (if we then .remoteClosedWithError else .remoteClosed) }, [.close false]) := by
  unfold stepRunning onIncoming
  rw [hc]
  cases we <;> rfl

theorem stepRunning_ctlClose_opened (we : Bool) :
    stepRunning s (.ctlClose we) =
      ({ s with cs := if we then .discarding else .closeSent, sessClosed := true }, [.close we]) := by
  unfold stepRunning
  rw [hc]
  cases we <;> rfl

end

/-- what one event may do to an opened connection -/
inductive OpenedOutcome (r : St × List Out) : Prop
  | close (we : Bool) (out : wire r.2 = [.close we]) (cs : InQ r.1.cs)
  | stay (cs : r.1.cs = .opened) (phase : r.1.phase = .running)
      (out : wire r.2 = [] ∨ wire r.2 = [.empty] ∨ ∃ ch, wire r.2 = [.frame ch])

theorem stepRunning_opened {s : St} (hc : s.cs = .opened) (hp : s.phase = .running) (e : Event) :
    OpenedOutcome (stepRunning s e) := by
  obtain ⟨heof, halloc, hout, hbeat⟩ := opened_tables hc
  cases e with
  | peer f =>
    cases hf : f.isClose with
    | true =>
      cases f <;> cases hf
      rw [stepRunning_peer_close_opened hc]
      exact .close false rfl .ended
    | false =>
      obtain ⟨e, he, h⟩ | ⟨_, s', os, h, a, b, c⟩ := onIncoming_opened hc hf
      · simp only [stepRunning, h, onError_opened hc he]
        exact .close true rfl .discarding
      · simp only [stepRunning, h, settle_of_ne (show s'.cs ≠ .ended by rw [b]; decide)]
        exact .stay b (c.trans hp) (.inl a)
  | eof =>
    simp only [stepRunning, heof, ↓reduceIte, onError_opened hc (e := .illegalState) rfl]
    exact .close true rfl .discarding
  | ctlClose we =>
    rw [stepRunning_ctlClose_opened hc]
    exact .close we rfl (by cases we <;> simp [InQ])
  | ctlBegin =>
    simp only [stepRunning, halloc, hout, ↓reduceIte]
    split
    · exact .stay hc hp (.inl rfl)
    · exact .stay hc hp (.inr (.inr ⟨_, rfl⟩))
  | sessFrame ch ie =>
    obtain ⟨a, b⟩ := sessFrame_keeps s ch ie
    simp only [stepRunning, hout, ↓reduceIte]
    split
    · exact .stay (a.trans hc) (b.trans hp) (.inl rfl)
    · exact .stay (a.trans hc) (b.trans hp) (.inr (.inr ⟨_, rfl⟩))
  | heartbeat =>
    simp only [stepRunning, hbeat]
    exact .stay hc hp (.inr (.inl rfl))

theorem markDead_eq (s : St) (e : Event) : ∃ d, markDead s e = { s with dead := d } := by
  unfold markDead; split <;> exact ⟨_, rfl⟩

theorem finishWait_eq (r : St × List Out) :
    finishWait r = r ∨ finishWait r = ({ overwrite r.1 .transport with phase := .stopped }, r.2) := by
  fun_cases finishWait r
  · exact .inr (congrArg (Prod.mk _) (List.append_nil _))
  · exact .inl rfl
  · exact .inl rfl

theorem finishWait_running {r : St × List Out} (h : r.1.phase = .running) : finishWait r = r := by
  unfold finishWait; rw [h]

theorem finishWait_alive {r : St × List Out} (h : r.1.dead = false) : finishWait r = r := by
  unfold finishWait
  split
  · rw [h]; rfl
  · rfl

theorem step1_running {s : St} (hp : s.phase = .running) (e : Event) : step1 s e = stepRunning s e := by
  rw [step1, hp]

theorem step1_wait {s : St} {d : Bool} (hp : s.phase = .waitClose d) (e : Event) : step1 s e = stepWait s d e := by
  rw [step1, hp]

/-- a frame from a dead transport is not taken up, and the end of the stream marks it dead first -/
theorem step_eq {s : St} (e : Event) (h : (s.dead && e.isPeer) = false) (he : e ≠ .eof) :
    step s e = finishWait (step1 s e) := by
  simp only [step, h, Bool.false_eq_true, if_false, markDead, he]

theorem step_peer_running {s : St} (hp : s.phase = .running) (hd : s.dead = false) {f : PFrame}
    {r : St × List Out} (h : stepRunning s (.peer f) = r) (hr : r.1.dead = false) : step s (.peer f) = r := by
  rw [step_eq (.peer f) (by rw [hd]; rfl) nofun, step1_running hp, h, finishWait_alive hr]

theorem closing_step1 (s : St) (e : Event) (h : Closing s) :
    wire (step1 s e).2 = [] ∧ Closing (step1 s e).1 := by
  unfold step1
  rcases h with h | h
  · rw [h]; exact ⟨rfl, .inl h⟩
  · split
    · exact ⟨(stepRunning_inQ h e).out, .inr (stepRunning_inQ h e).cs⟩
    · exact ⟨(stepWait_inQ h _ e).out, .inr (stepWait_inQ h _ e).cs⟩
    · exact ⟨rfl, .inr h⟩

/-- nothing after the close: in a closing state no event (frames from the peer, requests from the
    application, heartbeats, the end of the stream) makes the endpoint write anything -/
theorem closing_step (s : St) (e : Event) (h : Closing s) :
    wire (step s e).2 = [] ∧ Closing (step s e).1 := by
  unfold step
  split
  · exact ⟨rfl, h⟩
  · obtain ⟨d, hm⟩ := markDead_eq s e
    obtain ⟨a, b⟩ := closing_step1 { s with dead := d } e h
    rw [hm]
    rcases finishWait_eq (step1 { s with dead := d } e) with q | q
    · rw [q]; exact ⟨a, b⟩
    · rw [q]; exact ⟨a, .inl rfl⟩

theorem opened_step {s : St} (hc : s.cs = .opened) (hp : s.phase = .running) (e : Event) :
    OpenedOutcome (step s e) := by
  unfold step
  split
  · exact .stay hc hp (.inl rfl)
  · obtain ⟨d, hm⟩ := markDead_eq s e
    rw [hm, step1_running (by exact hp)]
    cases stepRunning_opened (s := { s with dead := d }) hc hp e with
    | stay a b c => rw [finishWait_running b]; exact .stay a b c
    | close we a b =>
      rcases finishWait_eq (stepRunning { s with dead := d } e) with q | q
      · rw [q]; exact .close we a b
      · rw [q]; exact .close we a b

theorem run_closing (evs : List Event) : ∀ (s : St), Closing s → wire (run s evs).2 = [] := by
  induction evs with
  | nil => intro s _; rfl
  | cons e es ih =>
    intro s h
    obtain ⟨a, b⟩ := closing_step s e h
    simp only [run, wire_append, a, List.nil_append]
    exact ih _ b

/-- C12 — at most one close, and nothing after it: from the opened connection, for every sequence of
    events, no header or open is written again and a close, if one is written, is the last frame -/
theorem close_is_last (evs : List Event) : ∀ (s : St), Inv s →
    CloseLast (wire (run s evs).2) ∧ ∀ o ∈ wire (run s evs).2, o ≠ .open_ ∧ o ≠ .header := by
  induction evs with
  | nil => intro s _; exact ⟨trivial, fun _ h => nomatch h⟩
  | cons e es ih =>
    intro s h
    rcases h with h | ⟨hc, hp⟩
    · rw [run_closing _ s h]; exact ⟨trivial, nofun⟩
    · simp only [run, wire_append]
      cases opened_step hc hp e with
      | close we a b =>
        rw [a, run_closing es _ (.inr b)]
        exact ⟨⟨fun _ => rfl, trivial⟩, List.forall_mem_cons.mpr ⟨⟨nofun, nofun⟩, nofun⟩⟩
      | stay b c a =>
        obtain ⟨i1, i2⟩ := ih _ (.inr ⟨b, c⟩)
        rcases a with a | a | ⟨ch, a⟩ <;> rw [a]
        · exact ⟨i1, i2⟩
        · exact ⟨⟨nofun, i1⟩, List.forall_mem_cons.mpr ⟨⟨nofun, nofun⟩, i2⟩⟩
        · exact ⟨⟨nofun, i1⟩, List.forall_mem_cons.mpr ⟨⟨nofun, nofun⟩, i2⟩⟩

theorem closeLast_count : ∀ (os : List Out), CloseLast os → (os.filter Out.isClose).length ≤ 1 :=
  List.count_le_one_of_last fun _ _ h => h

theorem at_most_one_close (evs : List Event) (s : St) (h : Inv s) :
    ((wire (run s evs).2).filter Out.isClose).length ≤ 1 :=
  closeLast_count _ (close_is_last evs s h).1

/-- the open phase: header, then open, whatever the peer answers; afterwards `Inv` holds -/
theorem open_phase (first : Option PFrame) :
    (∃ rest, (openWith first).2.1 = .header :: .open_ :: rest ∧ CloseLast rest ∧ ∀ o ∈ rest, o ≠ .open_ ∧ o ≠ .header) ∧
    Inv (openWith first).1 := by
  -- the peer's open is accepted; anything else is answered with a close from OPEN SENT
  have refused : ∀ r : St × List Out × Bool, r.2.1 = [.header, .open_, .close false] → r.1.cs = .closePipe →
      (∃ rest, r.2.1 = .header :: .open_ :: rest ∧ CloseLast rest ∧ ∀ o ∈ rest, o ≠ .open_ ∧ o ≠ .header) ∧
      Inv r.1 :=
    fun r h1 h2 => ⟨⟨_, h1, ⟨fun _ => rfl, trivial⟩, by simp⟩, .inl (.inr (.inl h2))⟩
  cases first with
  | none => exact refused _ rfl rfl
  | some f =>
    cases f with
    | open_ => exact ⟨⟨[], rfl, trivial, nofun⟩, .inr ⟨rfl, rfl⟩⟩
    | _ => exact refused _ rfl rfl

theorem run_ignored {α : Type} {s : St} (f : α → Event) (rest : List Event) :
    ∀ (l : List α), (∀ a ∈ l, step s (f a) = (s, [])) → run s (l.map f ++ rest) = run s rest
  | [], _ => rfl
  | a :: l, h => by
    simp only [List.map_cons, List.cons_append, run, h a (by simp), run_ignored f rest l fun a ha => h a (by simp [ha]),
      List.nil_append]

/-- a close from the peer is answered with a close (no error attached), the engine stops and the
    handle learns that, and why, the peer closed -/
theorem peer_close_answered (s : St) (we : Bool) (hc : s.cs = .opened) (hp : s.phase = .running) (hd : s.dead = false) :
    wire (step s (.peer (.close we))).2 = [.close false] ∧
    (step s (.peer (.close we))).1.phase = .stopped ∧
    (step s (.peer (.close we))).1.res = some (if we then .remoteClosedWithError else .remoteClosed) := by
  rw [step_peer_running hp hd (stepRunning_peer_close_opened hc we) hd]
  exact ⟨rfl, rfl, rfl⟩

theorem step_dropped {s : St} (hdrop : Conn.on_incoming_drops s.cs = true) (hp : s.phase = .running)
    (hd : s.dead = false) {f : PFrame} (hf : f.isClose = false) : step s (.peer f) = (s, []) := by
  have h : settle s = s := settle_of_ne fun h => by rw [h] at hdrop; cases hdrop
  refine step_peer_running hp hd ?_ hd
  simp only [stepRunning, onIncoming_dropped hdrop hf, h]

/-- after closing with an error everything but the peer's close is ignored: no output, no change of
    state, nothing handed to a session -/
theorem discarding_ignores (s : St) (f : PFrame) (hc : s.cs = .discarding) (hp : s.phase = .running)
    (hf : f.isClose = false) (hd : s.dead = false) :
    step s (.peer f) = (s, []) :=
  step_dropped (by rw [hc]; rfl) hp hd hf

/-- the same inside `wait_for_remote_close(true)` -/
theorem discarding_wait_ignores (s : St) (f : PFrame) (hp : s.phase = .waitClose true) (hf : f.isClose = false)
    (hd : s.dead = false) :
    step s (.peer f) = (s, []) := by
  rw [step_eq (.peer f) (by rw [hd]; rfl) nofun, step1_wait hp]
  cases f with
  | close we => cases hf
  | _ => exact finishWait_alive hd

/-- a frame that is illegal in the opened state is not acted on: a close carrying an error is all that
    is written, and the connection discards until the peer's close -/
theorem illegal_frame_refused (s : St) (f : PFrame) (hc : s.cs = .opened) (hp : s.phase = .running)
    (hd : s.dead = false) (hi : Illegal s f) :
    (step s (.peer f)).2 = [.close true] ∧ (step s (.peer f)).1.cs = .discarding ∧
    (step s (.peer f)).1.phase = .waitClose false := by
  obtain ⟨r, h⟩ := stepRunning_illegal hc hi
  rw [step_peer_running hp hd h hd]
  exact ⟨rfl, rfl, rfl⟩

/-- a clean close is reported as clean: after the local close, whatever the peer still had in flight,
    its close ends the engine with no error recorded, or with the error it carries -/
theorem local_close_then_peer_close (fs : List PFrame) (hfs : ∀ f ∈ fs, f.isClose = false) : ∀ (s : St),
    s.cs = .closeSent → s.phase = .running → s.dead = false → ∀ (we : Bool),
    (run s (fs.map Event.peer ++ [.peer (.close we)])).1.phase = .stopped ∧
    (run s (fs.map Event.peer ++ [.peer (.close we)])).1.res = (if we then some .remoteClosedWithError else s.res) ∧
    wire (run s (fs.map Event.peer ++ [.peer (.close we)])).2 = [] := by
  intro s hc hp hd we
  have last : stepRunning s (.peer (.close we)) =
      ({ s with cs := .ended, phase := .stopped, res := if we then some .remoteClosedWithError else s.res }, []) := by
    unfold stepRunning onIncoming
    rw [hc]
    cases we <;> rfl
  rw [run_ignored _ _ _ fun f hf => step_dropped (by rw [hc]; rfl) hp hd (hfs f hf), run, step_peer_running hp hd last hd]
  exact ⟨rfl, rfl, rfl⟩

/-- the local close: one close frame, the engine keeps reading -/
theorem local_close (s : St) (we : Bool) (hc : s.cs = .opened) (hp : s.phase = .running) :
    wire (step s (.ctlClose we)).2 = [.close we] ∧
    (step s (.ctlClose we)).1.cs = (if we then .discarding else .closeSent) ∧
    (step s (.ctlClose we)).1.phase = .running ∧ (step s (.ctlClose we)).1.res = s.res := by
  rw [step_eq (.ctlClose _) (Bool.and_false _) nofun, step1_running hp, stepRunning_ctlClose_opened hc, finishWait_running hp]
  exact ⟨rfl, rfl, hp, rfl⟩

/-- the end of the stream is not a clean close: the event loop's table for it, regenerated from the source -/
theorem eof_is_an_error_until_closed :
    eofIsError .opened = true ∧ eofIsError .closeSent = true ∧ eofIsError .closeReceived = true ∧
    eofIsError .openSent = true ∧ eofIsError .openReceived = true ∧ eofIsError .ended = false := by decide

theorem onError_res (s : St) (e : Err) : (onError s e).1.res ≠ none := by
  fun_cases onError s e <;> nofun

theorem eof_reported {s : St} (hp : s.phase = .running) (he : eofIsError s.cs = true) :
    (step s .eof).1.res ≠ none := by
  have h : step s .eof = finishWait (onError { s with dead := true } .illegalState) := by
    simp only [step, Event.isPeer, Bool.and_false, Bool.false_eq_true, if_false, markDead, if_true, step1, hp,
      stepRunning, he, Prod.eta]
  rw [h]
  rcases finishWait_eq (onError { s with dead := true } .illegalState) with q | q
  · rw [q]; exact onError_res _ _
  · rw [q]; nofun

/-- after a local close, a stream that ends before the peer's close makes the handle report an error -/
theorem eof_after_local_close_reported (s : St) (hc : s.cs = .opened) (hp : s.phase = .running) (hr : s.res = none)
    (hd : s.dead = false) :
    (run s [.ctlClose false, .eof]).1.res ≠ none := by
  obtain ⟨_, a, b, _⟩ := local_close s false hc hp
  simp only [run]
  exact eof_reported b (by rw [a]; rfl)

-- non-vacuity: the client opens, a session begins, the peer sends an illegal second open, then closes
example :
    (run (openWith (some .open_)).1 [.ctlBegin, .peer (.begin 3 (some 0)), .peer (.session 3), .peer .open_,
      .peer (.session 3), .peer (.close false)]).2 =
      [.frame 0, .toSession 3, .toSession 3, .close true] := by
  decide +kernel

end Amqp.Conn

namespace Amqp.CloseFlush

theorem source_keeps_verdict_and_drains : verdictKept = true ∧ drainsThenCloses = true := by decide

/-- queued frames are flushed before the close: whatever the sessions have queued when the peer's close
    is taken up is written, in order, before the answering close -/
theorem peer_close_flushes (queued : List Nat) :
    answer verdictKept drainsThenCloses queued = queued.map .frame ++ [.close] := by
  simp [answer, source_keeps_verdict_and_drains.1, source_keeps_verdict_and_drains.2]

theorem close_is_last_after_flush (queued : List Nat) :
    (answer verdictKept drainsThenCloses queued).getLast? = some .close ∧
    ((answer verdictKept drainsThenCloses queued).filter (· == .close)).length = 1 := by
  rw [peer_close_flushes]
  constructor
  · simp
  · simp [List.filter_append, List.filter_map]

/-- the other order loses frames: propagating the verdict first answers with the close alone -/
theorem early_verdict_drops_the_queue : answer false true [3, 4] = [.close] := by decide

end Amqp.CloseFlush
