/-
  C13 / C14 / C15 — the search for a detach the peer has already sent ends for every queue and finds the
  detach wherever it stands.
-/
import Amqp.PendingDetach

namespace Amqp.PendingDetach

theorem source_skips_others : skipsOthers = true := by decide
theorem source_any_failure_ends : anyFailureEnds = true := by decide

theorem take_finds (queue : List Item) (fuel : Nat) (h : queue.length < fuel) :
    ∃ rest, take true true fuel queue = some (firstDetach queue, rest) := by
  fun_induction take true true fuel queue
  · cases h
  · exact ⟨[], rfl⟩
  next hf _ => exact absurd rfl hf
  · exact ⟨_, rfl⟩
  next ih => exact ih (Nat.lt_of_succ_lt_succ h)
  next hf => exact absurd rfl hf

/-- Whatever is queued for a link when the application detaches or closes it (unread deliveries ahead
    of, behind or instead of a detach from the peer), the search comes back after at most one turn per
    queued frame plus one — it cannot spin, also when the queue is closed because the session is
    gone — and with the peer's detach exactly when one is queued. -/
theorem pending_detach_found (queue : List Item) :
    ∃ rest, takeAsSource queue = some (firstDetach queue, rest) := by
  unfold takeAsSource
  rw [source_skips_others, source_any_failure_ends]
  exact take_finds queue (queue.length + 1) (Nat.lt_succ_self _)

/-- looking at the head of the queue only misses a detach behind an unread delivery -/
example : take false true 3 [.other, .detach true true] = some (none, [.detach true true]) := by decide

/-- trying again on every failure of `try_recv` never comes back once the queue is empty: no amount
    of fuel is enough -/
theorem retrying_on_failure_spins (fuel : Nat) : take true false fuel [] = none := by
  induction fuel with
  | zero => rfl
  | succ f ih => simp [take, ih]

/-- non-vacuity: two unread deliveries, then the peer's closing detach with an error -/
example : takeAsSource [.other, .other, .detach true true, .other] = some (some (.detach true true), [.other]) := by decide

end Amqp.PendingDetach
