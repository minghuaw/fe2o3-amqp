/-
  C01 — end-to-end delivery: every message sent arrives intact, once, in order.
-/
import Amqp.E2E
import Theorems.C07
import Theorems.C10
import Theorems.C11
-- not used below: imported so that every theorem registered for C01 is reachable from this module
import Theorems.C13
import Theorems.Message

namespace Amqp.E2E
open Amqp.LinkSplit Amqp.Frame Amqp.Gen.LinkSplit Amqp.Gen.FrameK

def pay (ps : List Piece) : Bytes := (ps.map (·.payload)).flatten

/-- `ps` is not empty, every piece but the last says `more`, and the last has `more = m` -/
def MoreShape (m : Bool) (ps : List Piece) : Prop :=
  ∃ init last, ps = init ++ [last] ∧ (∀ p ∈ init, p.more = true) ∧ last.more = m

theorem pay_three (t t' m : Bool) (c : Bytes) (cs : List Bytes) (r : Bytes) :
    pay (⟨t, true, c⟩ :: cs.map (fun x => ⟨false, true, x⟩) ++ [⟨t', m, r⟩]) = c ++ (cs.flatten ++ r) := by
  simp [pay, List.map_map, Function.comp_def]

theorem more_three (t t' m : Bool) (c : Bytes) (cs : List Bytes) (r : Bytes) :
    MoreShape m (⟨t, true, c⟩ :: cs.map (fun x => ⟨false, true, x⟩) ++ [⟨t', m, r⟩]) :=
  ⟨_, _, rfl, List.forall_mem_cons.mpr ⟨rfl, List.forall_mem_map.mpr fun _ _ => rfl⟩, rfl⟩

theorem linkSplit_payload (m : Nat) (payload : Bytes) : pay (linkSplit m payload) = payload := by
  rcases linkSplitWith_cases tagClearedBeforeLoop m payload with h | ⟨c, cs, r, h, hp⟩
  · rw [linkSplit, h]; exact List.append_nil _
  · rw [linkSplit, h, pay_three, hp]

theorem linkSplit_more (m : Nat) (payload : Bytes) : MoreShape false (linkSplit m payload) := by
  rcases linkSplitWith_cases tagClearedBeforeLoop m payload with h | ⟨c, cs, r, h, _⟩
  · exact ⟨[], _, h, fun _ hp => (nomatch hp), rfl⟩
  · rw [linkSplit, h]; exact more_three ..

theorem frameCut_payload (B : Nat) (lens : Piece → SLens) (p : Piece) : pay (frameCut B lens p) = p.payload := by
  rcases frameCut_cases B lens p with h | ⟨c, cs, r, h, hp⟩
  · rw [h]; exact List.append_nil _
  · rw [h, pay_three, hp]

theorem frameCut_more (B : Nat) (lens : Piece → SLens) (p : Piece) : MoreShape p.more (frameCut B lens p) := by
  rcases frameCut_cases B lens p with h | ⟨c, cs, r, h, _⟩
  · exact ⟨[], _, h, fun _ hp => (nomatch hp), rfl⟩
  · rw [h]; exact more_three ..

theorem pay_append (a b : List Piece) : pay (a ++ b) = pay a ++ pay b := by simp [pay]

theorem pay_flatMap (f : Piece → List Piece) (hf : ∀ p, pay (f p) = p.payload) : ∀ (ps : List Piece), pay (ps.flatMap f) = pay ps
  | [] => rfl
  | p :: ps => by
    rw [List.flatMap_cons, pay_append, hf p, pay_flatMap f hf ps]
    simp [pay]

theorem delivery_payload (m B : Nat) (lens : Piece → SLens) (payload : Bytes) :
    pay (deliveryFrames m B lens payload) = payload := by
  unfold deliveryFrames
  rw [pay_flatMap _ (frameCut_payload B lens), linkSplit_payload]

theorem MoreShape.flatMap {m : Bool} {ps : List Piece} {f : Piece → List Piece} (hf : ∀ p, MoreShape p.more (f p)) :
    MoreShape m ps → MoreShape m (ps.flatMap f)
  | ⟨init, last, e, hi, hl⟩ => by
    obtain ⟨i2, l2, e2, hi2, hl2⟩ := hf last
    refine ⟨init.flatMap f ++ i2, l2, by rw [e, List.flatMap_append, List.flatMap_singleton, e2, List.append_assoc],
      fun q hq => ?_, hl2.trans hl⟩
    rcases List.mem_append.mp hq with hq | hq
    · obtain ⟨a, ha, hqa⟩ := List.mem_flatMap.mp hq
      obtain ⟨ia, la, ea, hia, hla⟩ := hf a
      rcases List.mem_append.mp (ea ▸ hqa) with h | h
      · exact hia q h
      · cases List.mem_singleton.mp h; exact hla.trans (hi a ha)
    · exact hi2 q hq

theorem delivery_more (m B : Nat) (lens : Piece → SLens) (payload : Bytes) :
    MoreShape false (deliveryFrames m B lens payload) :=
  (linkSplit_more m payload).flatMap (frameCut_more B lens)

theorem toFrame_agrees (id : Nat) (msg : Msg) (p : Piece) :
    Amqp.Reasm.Agrees id msg.tag (some 0) (toFrame id msg p) := by
  cases h : p.hasTag <;> simp [Amqp.Reasm.Agrees, toFrame, h]

/-- Whatever its size, the peer's max-message-size and the frame size, the frames of a delivery hand the
    receiving application nothing until the last one, then exactly one delivery with the sender's tag and
    byte for byte the sender's payload; no error, no state left -/
theorem one_delivery (m B : Nat) (lens : Piece → SLens) (id : Nat) (msg : Msg) :
    ∃ n settled, Amqp.Reasm.run none (wireOf m B lens id msg) =
      (none, List.replicate n Amqp.Reasm.Out.nothing ++ [.delivery id msg.tag (some 0) settled msg.payload]) := by
  -- the first piece `q` has the tag, so its frame carries the delivery's fields; only the last piece lacks `more`
  obtain ⟨q, qs, e, hq, -⟩ : HeadTag true (deliveryFrames m B lens msg.payload) :=
    (linkSplit_headTag m msg.payload).flatMap (frameCut_headTag B lens)
  obtain ⟨init, last, e', hi, hl⟩ := delivery_more m B lens msg.payload
  have hpay := delivery_payload m B lens msg.payload
  rw [wireOf, e']
  rw [e'] at e hpay
  cases init with
  | nil =>
    cases e
    refine ⟨0, msg.settled, ?_⟩
    rw [List.nil_append, List.map_singleton, Amqp.Reasm.run,
      Amqp.Reasm.single_frame id msg.tag (toFrame id msg q) (if_pos hq) (if_pos hq) hl rfl, ← hpay]
    simp [Amqp.Reasm.run, toFrame, hq, pay]
  | cons a mids =>
    cases e
    obtain ⟨settled, h⟩ := Amqp.Reasm.reasm_once id msg.tag (some 0) (toFrame id msg q)
      (mids.map (toFrame id msg)) (toFrame id msg last)
      ⟨if_pos hq, if_pos hq, if_pos hq, hi q List.mem_cons_self, rfl⟩
      (fun f hf => by
        obtain ⟨p, hp, rfl⟩ := List.mem_map.mp hf
        exact ⟨toFrame_agrees id msg p, hi p (List.mem_cons_of_mem _ hp)⟩)
      ⟨toFrame_agrees id msg last, hl⟩
    refine ⟨mids.length + 1, settled, ?_⟩
    rw [List.map_append, List.map_cons, List.map_singleton, h, ← hpay]
    simp [pay, toFrame, List.map_map, List.map_const', List.replicate_succ, Function.comp_def]

theorem delivered_append (a b : List Amqp.Reasm.Out) : delivered (a ++ b) = delivered a ++ delivered b :=
  List.filterMap_append

theorem errors_append (a b : List Amqp.Reasm.Out) : errors (a ++ b) = errors a ++ errors b :=
  List.filter_append a b

theorem delivered_nothing (n : Nat) : delivered (List.replicate n Amqp.Reasm.Out.nothing) = [] :=
  List.filterMap_replicate_of_none rfl

theorem errors_nothing (n : Nat) : errors (List.replicate n Amqp.Reasm.Out.nothing) = [] :=
  List.filter_replicate_of_neg (by decide)

/-- For every finite sequence of messages of any sizes, every max-message-size of the peer, every frame size
    and every starting transfer-id: what `recv` hands to the receiving application is exactly the sequence of
    messages sent on the link — each once, byte for byte, in the order sent — with no reassembly error and no
    partial delivery left over. -/
theorem end_to_end (m B : Nat) (lens : Piece → SLens) : ∀ (msgs : List Msg) (next : Nat),
    let r := Amqp.Reasm.run none (wireAll m B lens next msgs)
    r.1 = none ∧ delivered r.2 = msgs.map (fun x => (x.tag, x.payload)) ∧ errors r.2 = []
  | [], next => by simp [wireAll, Amqp.Reasm.run, delivered, errors]
  | msg :: rest, next => by
    obtain ⟨n, settled, h1⟩ := one_delivery m B lens next msg
    have ih := end_to_end m B lens rest (next + (wireOf m B lens next msg).length)
    simp only [wireAll, Amqp.Reasm.run_append, h1] at ih ⊢
    refine ⟨ih.1, ?_, ?_⟩
    · rw [delivered_append, delivered_append, delivered_nothing, ih.2.1]; rfl
    · rw [errors_append, errors_append, errors_nothing, ih.2.2]; rfl

/-- non-vacuity: three messages, the middle one cut by both layers -/
example :
    let lens : Piece → SLens := fun p => if p.hasTag then ⟨20, 20, 12⟩ else ⟨12, 12, 12⟩
    let msgs : List Msg := [⟨[1], false, [10, 11]⟩, ⟨[2], true, List.replicate 70 7⟩, ⟨[3], false, []⟩]
    (wireAll 40 32 lens 5 msgs).length = 7 ∧
    delivered (Amqp.Reasm.run none (wireAll 40 32 lens 5 msgs)).2 = msgs.map (fun x => (x.tag, x.payload)) := by
  decide +kernel

end Amqp.E2E
