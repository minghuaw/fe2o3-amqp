/-
  C01 / C10 / C20 — reading a delivery from the list of its frames' payloads is reading it from their
  concatenation: for every chunking and every sequence of destination sizes.
-/
import Amqp.Chunks
import Amqp.IoRead

namespace Amqp.Chunks
open Amqp.Gen.ChunksK

theorem source_chunk_reader_shape : sourceShape = true := by decide

theorem readLoop_spec (n : Nat) : ∀ (cs : List Bytes) (got : Nat), got ≤ n →
    (readLoop n got cs).copied = cs.flatten.take (n - got) ∧
    (readLoop n got cs).chunks.flatten = cs.flatten.drop (n - got) ∧
    (readLoop n got cs).count = got + (readLoop n got cs).copied.length := by
  intro cs
  induction cs with
  | nil => intro got _; simp [readLoop]
  | cons p rest ih =>
    intro got hg
    unfold readLoop
    by_cases h0 : byte_reader_read.cond_if_0 n got p.length = true
    · have hk : n - got ≤ p.length := by
        simpa [byte_reader_read.cond_if_0, psub64] using h0
      simp only [h0, if_true, byte_reader_read.arg_split_to_0, byte_reader_read.assign_nbytes_read_0, psub64,
        List.flatten_cons]
      exact ⟨(List.take_append_of_le_length hk).symm, (List.drop_append_of_le_length hk).symm,
        by rw [List.length_take_of_le hk, Nat.add_sub_cancel' hg]⟩
    · have hk : p.length < n - got := by
        simpa [byte_reader_read.cond_if_0, psub64, Nat.lt_sub_iff_add_lt] using h0
      have h1 : byte_reader_read.cond_if_1 n p.length = true :=
        decide_eq_true (Nat.lt_of_lt_of_le hk (Nat.sub_le _ _))
      have h0' : byte_reader_read.cond_if_0 n got p.length = false := by simpa using h0
      simp only [h0', h1, if_true, Bool.false_eq_true, if_false, byte_reader_read.assign_nbytes_read_1,
        byte_reader_read.let_remaining_0]
      obtain ⟨i1, i2, i3⟩ := ih (got + p.length) (Nat.le_of_lt (Nat.add_lt_of_lt_sub' hk))
      rw [Nat.sub_add_eq] at i1 i2
      refine ⟨?_, ?_, ?_⟩
      · simp only [List.flatten_cons, List.take_append, i1, List.take_of_length_le (Nat.le_of_lt hk)]
      · simp only [List.flatten_cons, List.nil_append, List.drop_append, i2,
          List.drop_of_length_le (Nat.le_of_lt hk)]
      · rw [i3, List.length_append, Nat.add_assoc]

/-- C01, C10, C20. One `read` into a destination of `n` bytes copies the first `n` bytes of the
    concatenation of the chunks (all of it when it is shorter) and leaves the rest — wherever the chunk
    boundaries are, with empty chunks anywhere. -/
theorem read_refines_concat (cs : List Bytes) (n : Nat) :
    (read cs n).copied = cs.flatten.take n ∧
    (read cs n).chunks.flatten = cs.flatten.drop n ∧
    (read cs n).count = (read cs n).copied.length := by
  have h := readLoop_spec n cs 0 (Nat.zero_le n)
  rw [Nat.sub_zero, Nat.zero_add] at h
  -- `read` enters the loop with `let_nbytes_read_0`, which is 0
  exact h

theorem read_count (cs : List Bytes) (n : Nat) : (read cs n).count = min n cs.flatten.length := by
  obtain ⟨a, _, c⟩ := read_refines_concat cs n
  rw [c, a, List.length_take]

/-- on chunks that hold nothing `read` brings nothing, and `read_exact` of a positive count fails -/
theorem readExact_dry (fuel : Nat) (cs : List Bytes) (m : Nat) (h : cs.flatten = []) :
    readExact fuel cs (m + 1) = none := by
  cases fuel with
  | zero => rfl
  | succ fuel => rw [readExact, if_pos (by rw [read_count, h]; rfl)]

/-- one `read` brings all that is asked for, or all there is, and then the next brings nothing: one turn
    of the loop is all `read_exact` needs -/
theorem readExact_eq (fuel : Nat) (cs : List Bytes) (n : Nat) :
    (readExact (fuel + 1) cs n).map (fun r => (r.1, r.2.flatten)) = Amqp.IoRead.srcExact cs.flatten n := by
  cases n with
  | zero => rfl
  | succ n =>
    obtain ⟨a, b, c⟩ := read_refines_concat cs (n + 1)
    have hc := read_count cs (n + 1)
    rw [readExact, Amqp.IoRead.srcExact]
    by_cases hL : cs.flatten.length < n + 1
    · rw [if_pos hL]
      split
      · rfl
      · rw [hc, Nat.min_eq_right (Nat.le_of_lt hL), Nat.succ_sub (Nat.le_of_lt_succ hL),
          readExact_dry _ _ _ (b.trans (List.drop_of_length_le (Nat.le_of_lt hL)))]
        rfl
    · have hcnt : (read cs (n + 1)).count = n + 1 := by rw [hc, Nat.min_eq_left (Nat.le_of_not_lt hL)]
      have ht : (read cs (n + 1)).copied.take (read cs (n + 1)).count = cs.flatten.take (n + 1) := by
        rw [c, List.take_length, a]
      rw [if_neg hL, if_neg (by rw [hcnt]; exact Nat.succ_ne_zero n), ht, hcnt, Nat.sub_self]
      simp only [readExact, Option.map_some, List.append_nil, b]

/-- C01, C10, C20. `read_exact` on the reader over the chunks is `read_exact` on a stream that holds their
    concatenation — the stream the io reader model (`Amqp.IoRead`) stands on.  With `io_refines_slice`,
    decoding a delivery from the payloads of its frames is decoding it from one buffer holding the payloads
    one after the other, for every way the delivery was cut into frames. -/
theorem chunk_stream_is_the_concatenation (cs : List Bytes) (n : Nat) :
    (readExact (n + 1) cs n).map (fun r => (r.1, r.2.flatten)) = Amqp.IoRead.srcExact cs.flatten n :=
  readExact_eq n cs n

/-! The io reader touches its stream through `read_exact` only (`fill_buffer`, `peek`, `next`, `read_exact` —
the order facts of `Amqp.Gen.IoReadK`), so two streams that answer every sequence of `read_exact` calls
alike are the same stream to it, and to the decoder on top of it. -/

/-- a sequence of `read_exact` calls on the reader over the chunks (it stops at the first failure) -/
def runChunks : List Bytes → List Nat → List (Option Bytes)
  | _, [] => []
  | cs, n :: ns =>
    match readExact (n + 1) cs n with
    | none => [none]
    | some (bs, cs') => some bs :: runChunks cs' ns

/-- the same calls on a stream holding the bytes in one piece -/
def runFlat : Bytes → List Nat → List (Option Bytes)
  | _, [] => []
  | src, n :: ns =>
    match Amqp.IoRead.srcExact src n with
    | none => [none]
    | some (bs, rest) => some bs :: runFlat rest ns

/-- C01, C10, C20. For every list of chunks and every sequence of `read_exact` calls of any sizes, the
    reader over the chunks answers exactly as a stream holding the concatenation of the chunks: the same
    bytes, a failure at the same call. -/
theorem chunks_are_one_stream : ∀ (ns : List Nat) (cs : List Bytes),
    runChunks cs ns = runFlat cs.flatten ns := by
  intro ns
  induction ns with
  | nil => intro cs; rfl
  | cons n ns ih =>
    intro cs
    unfold runChunks runFlat
    rw [← chunk_stream_is_the_concatenation cs n]
    cases readExact (n + 1) cs n with
    | none => rfl
    | some r => simp only [Option.map_some, ih r.2]

/-- the concatenation, one byte at a time: the recursion of `iterAll` -/
theorem flatten_iterNext : ∀ cs : List Bytes,
    cs.flatten = match iterNext cs with
      | none => []
      | some (b, cs') => b :: cs'.flatten
  | [] => rfl
  | [] :: rest => by
    rw [iterNext, List.flatten_cons, List.nil_append, flatten_iterNext rest]
    cases iterNext rest <;> rfl
  | (b :: p) :: rest => rfl

/-- The byte iterator over the chunks yields the bytes of their concatenation, in order
    (its `len` is the length of the concatenation: `iterLen_eq`). -/
theorem byte_iterator_is_the_concatenation : ∀ (fuel : Nat) (cs : List Bytes), cs.flatten.length < fuel →
    iterAll fuel cs = cs.flatten := by
  intro fuel
  induction fuel with
  | zero => exact fun cs h => nomatch h
  | succ fuel ih =>
    intro cs
    rw [flatten_iterNext cs, iterAll]
    cases iterNext cs with
    | none => exact fun _ => rfl
    | some p => exact fun h => congrArg _ (ih p.2 (Nat.lt_of_succ_lt_succ h))

theorem iterLen_eq (cs : List Bytes) : iterLen cs = cs.flatten.length := by
  simp [iterLen, List.length_flatten]

/-- non-vacuity: four chunks, one of them empty, read 1, 1, 3 bytes at a time and then too much -/
example : (read [[1, 2, 3], [], [4, 5, 6, 7, 8], [9]] 4).copied = [1, 2, 3, 4] := by decide
example : (read [[1, 2, 3], [], [4, 5, 6, 7, 8], [9]] 4).chunks = [[], [], [5, 6, 7, 8], [9]] := by decide
example : readExact 11 [[1, 2, 3], [4]] 10 = none := by decide
example : iterAll 10 [[1], [], [2, 3]] = [1, 2, 3] := by decide
example : runChunks [[1, 2, 3], [], [4, 5, 6, 7, 8], [9]] [1, 1, 3, 10, 1] = [some [1], some [2], some [3, 4, 5], none] := by decide

end Amqp.Chunks
