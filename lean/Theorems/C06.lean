/-
  C06 — Frames on the wire: intact, within max-frame-size, under any fragmentation.

  Quantifiers: every max-frame-size, every payload (any length), every
  performative encoding (opaque byte strings subject to the explicit `Fits`
  hypotheses), every partition of the byte stream into reads.
-/
import Theorems.Lemmas.Frame
-- not used below: imported so that every theorem registered for C06 is reachable from this module
import Theorems.TransferFits
import Theorems.FrameBody

namespace Amqp.Frame

/-- encoder limit `E` (bytes after the length prefix) and body limit `B = E - 4` -/
theorem body_of_encoder (E : Nat) : frameEncoderBody E = E - 4 := rfl

/-- what `set_encoder_max_frame_size` installs for a negotiated max-frame-size `M` -/
theorem encoder_of_negotiated (M : Nat) : encoderMaxLen M = Nat.max 512 M - 4 := rfl

/-- the frames `encode_transfer` writes: first performative, continuation
    performatives, last performative — or the single unsplit frame -/
theorem transfer_split (B : Nat) (p : Perfs) (payload : Bytes) (hf : Fits B p) :
    payloadOf (split B p payload) = payload ∧
    ((split B p payload = [(p.p0, payload)] ∧ p.p0.length + payload.length ≤ B) ∨
     (∃ (cs : List Bytes) (rest : Bytes), split B p payload =
        (p.p1, payload.take (B - p.p1.length)) :: cs.map (fun c => (p.p2, c)) ++ [(p.p3, rest)] ∧
        p.p0.length + payload.length > B)) := by
  rcases split_cases B p payload hf with ⟨h, hle⟩ | ⟨cs, rest, h, hgt, hp, _⟩
  · exact ⟨by rw [h, payloadOf_cons]; exact List.append_nil _, .inl ⟨h, hle⟩⟩
  · refine ⟨?_, .inr ⟨cs, rest, h, hgt⟩⟩
    rw [h, List.cons_append, payloadOf_cons, payloadOf_append, payloadOf_map_const, payloadOf_cons]
    exact (congrArg (fun x => _ ++ (_ ++ x)) (List.append_nil rest)).trans hp

/-- `start_send` cuts the encoder's buffer exactly at the frame boundaries: the chunks handed to the
    length-delimited encoder are the frames `encode_transfer` wrote, one by one. -/
theorem chunking_exact (E : Nat) (hE : 4 < E) (ch : Nat) (p : Perfs) (payload : Bytes)
    (hf : Fits (E - 4) p) :
    let frames := encodeTransfer (E - 4) ch p payload
    chunks E frames.flatten.length frames.flatten = frames := by
  intro frames
  obtain ⟨fs, last, h, hfs, h0, hl⟩ := encodeTransfer_cases E hE ch p payload hf
  have hfl : frames.flatten = fs.flatten ++ last := by
    rw [show frames = fs ++ [last] from h, List.flatten_append, List.flatten_singleton]
  rw [chunks_eq, hfl, pieces_flatten_append last h0 hl fs _ hfs (Nat.le_refl _)]
  exact h.symm

/-- Every frame put on the wire for a transfer (length prefix included) is at most `E + 4` bytes — the peer's
    max-frame-size when `E = max-frame-size - 4` — whatever the payload length. -/
theorem frames_bounded (E : Nat) (hE : 4 < E) (ch : Nat) (p : Perfs) (payload : Bytes)
    (hf : Fits (E - 4) p) : ∀ w ∈ wireTransfer E ch p payload, w.length ≤ E + 4 := by
  intro w hw
  simp only [wireTransfer, body_of_encoder] at hw
  rw [chunking_exact E hE ch p payload hf] at hw
  obtain ⟨f, hfm, rfl⟩ := List.mem_map.mp hw
  obtain ⟨fs, last, h, hfs, _, hl⟩ := encodeTransfer_cases E hE ch p payload hf
  rw [prefixed_length]
  rw [h, List.mem_append, List.mem_singleton] at hfm
  rcases hfm with hfm | rfl
  · exact Nat.le_of_eq (congrArg (· + 4) (hfs f hfm))
  · exact Nat.add_le_add_right hl 4

/-- The frames produced by the stream decoder, and whether it fails, depend only on the bytes received, not on
    how they were split across reads (1-byte reads, cuts inside the length field, …). -/
theorem stream_partition_indep (m : Nat) (cs1 cs2 : List Bytes) (h : cs1.flatten = cs2.flatten) :
    (feedAll m decInit cs1).2 = (feedAll m decInit cs2).2 ∧
    (feedAll m decInit cs1).1.failed = (feedAll m decInit cs2).1.failed := by
  have hd : Drained m decInit := fun _ => rfl
  obtain ⟨a1, a2, _⟩ := feedAll_flatten m cs1 decInit hd
  obtain ⟨b1, b2, _⟩ := feedAll_flatten m cs2 decInit hd
  rw [a1, a2, b1, b2, h]
  exact ⟨rfl, rfl⟩

/-- Whatever partition of the wire bytes of a transfer the peer's reads see, a decoder whose max-frame-size is
    at least `E + 4` recovers exactly the frames `encode_transfer` wrote, in order, and nothing else. -/
theorem wire_decodes (E m : Nat) (hE : 4 < E) (hm : E + 4 ≤ m) (hbig : E + 4 < 4294967296)
    (ch : Nat) (p : Perfs) (payload : Bytes) (hf : Fits (E - 4) p)
    (reads : List Bytes) (hr : reads.flatten = (wireTransfer E ch p payload).flatten) :
    (feedAll m decInit reads).2 = encodeTransfer (E - 4) ch p payload ∧
    (feedAll m decInit reads).1.failed = none := by
  obtain ⟨a1, a2, _⟩ := feedAll_flatten m reads decInit (fun _ => rfl)
  have hw : wireTransfer E ch p payload = (encodeTransfer (E - 4) ch p payload).map prefixed := by
    simp only [wireTransfer, body_of_encoder]
    rw [chunking_exact E hE ch p payload hf]
  have hbound : ∀ c ∈ encodeTransfer (E - 4) ch p payload, c.length + 4 ≤ m ∧ c.length + 4 < 4294967296 := by
    intro c hc
    have := frames_bounded E hE ch p payload hf (prefixed c) (by rw [hw]; exact List.mem_map_of_mem hc)
    rw [prefixed_length] at this
    exact ⟨Nat.le_trans this hm, Nat.lt_of_le_of_lt this hbig⟩
  rw [a1, a2, hr, feed_live m decInit _ rfl, hw]
  simp only [decInit, List.nil_append, D_wire m _ hbound]
  exact ⟨trivial, trivial⟩

/-! ### non-vacuity: `Fits` is met by concrete encodings and a multi-frame payload -/
def samplePerfs : Perfs :=
  { p0 := List.replicate 20 0x41, p1 := List.replicate 20 0x42,
    p2 := List.replicate 6 0x43, p3 := List.replicate 5 0x44 }

example : Fits (64 - 4) samplePerfs := ⟨by decide, by decide, by decide, by decide⟩

example : ((wireTransfer 64 3 samplePerfs (List.replicate 200 7)).map List.length) = [68, 68, 68, 65] := by
  decide +kernel

end Amqp.Frame
