/-
  The typed layer (C03, C05, C20).  The theorems are stated for every environment of schemas that
  satisfies `EnvOk` and then instantiated with the one elaborated from the declarations regenerated
  from `fe2o3-amqp-types` (`env_ok`), so they cover every composite declared there, with every
  combination of present and absent fields.
-/
import Theorems.Lemmas.Typed
import Theorems.C03

namespace Amqp.Typed
open Amqp.Codec Amqp.Gen.Codes

/-! ## the declarations against the specification (C05)

  The composite types of AMQP 1.0 parts 2–5 as the standard defines them, written here by hand
  from the standard: descriptor name and code, and per field its name, type, and whether it is
  mandatory, optional, has a default or may hold multiple values. -/

section Spec
open FKind
private def u32max : Value := .fixed .uint [255, 255, 255, 255]
private def u32zero : Value := .fixed .uint [0, 0, 0, 0]
private def F : Value := .bool false
private abbrev P (p : Prim) : FTy := .prim p

/-- (wire name, type, kind, default) -/
abbrev SpecField := String × FTy × FKind × Value

def req (n : String) (t : FTy) : SpecField := (n, t, required, .null)
def opt (n : String) (t : FTy) : SpecField := (n, t, optional, .null)
def mul (n : String) : SpecField := (n, P .symbols, multiple, .null)
def dft (n : String) (t : FTy) (d : Value) : SpecField := (n, t, dflt, d)

private def errorT : FTy := .comp ["amqp:error:list"]

private def terminusFields : List SpecField := [
  opt "address" (P .string), dft "durable" (P (.uintBelow 3)) u32zero,
  dft "expiry-policy" (P .symbol) (.var .symbol (nameBytes "session-end")),
  dft "timeout" (P .uint) u32zero, dft "dynamic" (P .bool) F,
  opt "dynamic-node-properties" (P .map)]

def spec : List (String × Nat × List SpecField) := [
  ("amqp:open:list", 0x10, [req "container-id" (P .string), opt "hostname" (P .string),
    dft "max-frame-size" (P .uint) u32max, dft "channel-max" (P .ushort) (.fixed .ushort [255, 255]),
    opt "idle-time-out" (P .uint), mul "outgoing-locales", mul "incoming-locales",
    mul "offered-capabilities", mul "desired-capabilities", opt "properties" (P .map)]),
  ("amqp:begin:list", 0x11, [opt "remote-channel" (P .ushort), req "next-outgoing-id" (P .uint),
    req "incoming-window" (P .uint), req "outgoing-window" (P .uint), dft "handle-max" (P .uint) u32max,
    mul "offered-capabilities", mul "desired-capabilities", opt "properties" (P .map)]),
  ("amqp:attach:list", 0x12, [req "name" (P .string), req "handle" (P .uint), req "role" (P .bool),
    dft "snd-settle-mode" (P (.ubyteBelow 3)) (.fixed .ubyte [2]),
    dft "rcv-settle-mode" (P (.ubyteBelow 2)) (.fixed .ubyte [0]),
    opt "source" (.comp ["amqp:source:list"]), opt "target" (.comp ["amqp:target:list", "amqp:coordinator:list"]),
    opt "unsettled" (P .map), dft "incomplete-unsettled" (P .bool) F, opt "initial-delivery-count" (P .uint),
    opt "max-message-size" (P .ulong), mul "offered-capabilities", mul "desired-capabilities",
    opt "properties" (P .map)]),
  ("amqp:flow:list", 0x13, [opt "next-incoming-id" (P .uint), req "incoming-window" (P .uint),
    req "next-outgoing-id" (P .uint), req "outgoing-window" (P .uint), opt "handle" (P .uint),
    opt "delivery-count" (P .uint), opt "link-credit" (P .uint), opt "available" (P .uint),
    dft "drain" (P .bool) F, dft "echo" (P .bool) F, opt "properties" (P .map)]),
  ("amqp:transfer:list", 0x14, [req "handle" (P .uint), opt "delivery-id" (P .uint), opt "delivery-tag" (P .binary),
    opt "message-format" (P .uint), opt "settled" (P .bool), dft "more" (P .bool) F,
    opt "rcv-settle-mode" (P (.ubyteBelow 2)), opt "state" (.comp deliveryStates), dft "resume" (P .bool) F,
    dft "aborted" (P .bool) F, dft "batchable" (P .bool) F]),
  ("amqp:disposition:list", 0x15, [req "role" (P .bool), req "first" (P .uint), opt "last" (P .uint),
    dft "settled" (P .bool) F, opt "state" (.comp deliveryStates), dft "batchable" (P .bool) F]),
  ("amqp:detach:list", 0x16, [req "handle" (P .uint), dft "closed" (P .bool) F, opt "error" errorT]),
  ("amqp:end:list", 0x17, [opt "error" errorT]),
  ("amqp:close:list", 0x18, [opt "error" errorT]),
  ("amqp:error:list", 0x1d, [req "condition" (P .symbol), opt "description" (P .string), opt "info" (P .map)]),
  ("amqp:received:list", 0x23, [req "section-number" (P .uint), req "section-offset" (P .ulong)]),
  ("amqp:accepted:list", 0x24, []),
  ("amqp:rejected:list", 0x25, [opt "error" errorT]),
  ("amqp:released:list", 0x26, []),
  ("amqp:modified:list", 0x27, [opt "delivery-failed" (P .bool), opt "undeliverable-here" (P .bool),
    opt "message-annotations" (P .map)]),
  ("amqp:source:list", 0x28, terminusFields ++ [opt "distribution-mode" (P .symbol), opt "filter" (P .map),
    opt "default-outcome" (.comp outcomes), mul "outcomes", mul "capabilities"]),
  ("amqp:target:list", 0x29, terminusFields ++ [mul "capabilities"]),
  ("amqp:delete-on-close:list", 0x2b, []),
  ("amqp:delete-on-no-links:list", 0x2c, []),
  ("amqp:delete-on-no-messages:list", 0x2d, []),
  ("amqp:delete-on-no-links-or-messages:list", 0x2e, []),
  ("amqp:coordinator:list", 0x30, [mul "capabilities"]),
  ("amqp:declare:list", 0x31, [opt "global-id" (P .binary)]),
  ("amqp:discharge:list", 0x32, [req "txn-id" (P .binary), opt "fail" (P .bool)]),
  ("amqp:declared:list", 0x33, [req "txn-id" (P .binary)]),
  ("amqp:transactional-state:list", 0x34, [req "txn-id" (P .binary), opt "outcome" (.comp outcomes)]),
  ("amqp:sasl-init:list", 0x41, [req "mechanism" (P .symbol), opt "initial-response" (P .binary),
    opt "hostname" (P .string)]),
  ("amqp:sasl-challenge:list", 0x42, [req "challenge" (P .binary)]),
  ("amqp:sasl-response:list", 0x43, [req "response" (P .binary)]),
  ("amqp:sasl-outcome:list", 0x44, [req "code" (P (.ubyteBelow 5)), opt "additional-data" (P .binary)]),
  ("amqp:header:list", 0x70, [dft "durable" (P .bool) F, dft "priority" (P .ubyte) (.fixed .ubyte [4]),
    opt "ttl" (P .uint), dft "first-acquirer" (P .bool) F, dft "delivery-count" (P .uint) u32zero]),
  ("amqp:properties:list", 0x73, [opt "message-id" (P .msgid), opt "user-id" (P .binary), opt "to" (P .string),
    opt "subject" (P .string), opt "reply-to" (P .string), opt "correlation-id" (P .msgid),
    opt "content-type" (P .symbol), opt "content-encoding" (P .symbol), opt "absolute-expiry-time" (P .timestamp),
    opt "creation-time" (P .timestamp), opt "group-id" (P .string), opt "group-sequence" (P .uint),
    opt "reply-to-group-id" (P .string)])]
end Spec

def viewField (f : Field) : SpecField := (f.wire, f.ty, f.kind, f.dflt)
def viewSchema (s : Schema) : String × Nat × List SpecField := (s.name, s.code, s.fields.map viewField)

local instance : DecidableEq SpecField := inferInstanceAs (DecidableEq (String × FTy × FKind × Value))

/-- generated obligation: the composites the source declares — descriptor names, descriptor codes, field names
    in their order, field types, mandatory / optional / default (with the default's value) / multiple — are
    exactly those of the standard.  A field reordered, renamed, retyped, given or stripped of a default, a
    wrong code or name breaks this. -/
theorem schemas_match_spec : env.map viewSchema = spec := by decide +kernel

/-- generated obligation: every list-encoded composite of the source elaborates — each field's
    declared type is one the model knows, `default` only on types with a known default and never
    on an `Option`, `multiple` only on an `Option` -/
theorem env_elaborates :
    (Amqp.Gen.Schemas.all.filter isListSchema).all (fun g => (elabSchema g).isSome) = true := by
  -- `elabAll` keeps what elaborates of the list schemas, and kept as many as the standard has types
  have h : (Amqp.Gen.Schemas.all.filter isListSchema).length = (env.map viewSchema).length := by
    rw [schemas_match_spec]; decide +kernel
  rw [List.length_map, env, elabAll_eq_filterMap] at h
  exact List.all_eq_true.mpr (List.filterMap_length_eq_length.mp h.symm)

/-! ## the declarations are a valid environment

  Facts about `env` are evaluated on the hand-written table: by `schemas_match_spec` the two agree
  in everything but the Rust names, which no function of the model reads, and elaborating the
  generated declarations costs the kernel a pass of `tyOf` over every field each time. -/

/-- the entries of `vs` as schemas, under the Rust names of `ss` -/
def relabel : List Schema → List (String × Nat × List SpecField) → List Schema
  | _, [] => []
  | ss, v :: vs =>
    ⟨(ss.head?.map (·.rust)).getD "", v.1, v.2.1, v.2.2.map fun f => ⟨f.1, f.2.1, f.2.2.1, f.2.2.2⟩⟩ ::
      relabel ss.tail vs

theorem relabel_view : ∀ l : List Schema, relabel l (l.map viewSchema) = l
  | [] => rfl
  | s :: l => by
    simp only [List.map_cons, relabel, List.head?_cons, List.tail_cons, relabel_view l]
    simp [viewSchema, viewField, Function.comp_def]

theorem env_eq : env = relabel env spec :=
  (relabel_view env).symm.trans (congrArg _ schemas_match_spec)

/-- the bytes of the descriptor name; `nameBytes` of it if they are ASCII (`nameBytes_ascii`) -/
def rawName (s : Schema) : Bytes := s.name.toByteArray.data.toList

/-- a decidable rendering of `EnvOk` -/
def envOkB (env : List Schema) : Bool :=
  (env.all fun s => (rawName s).all (· < 128)) &&
  decide (env.Pairwise fun a b => a.code ≠ b.code ∧ rawName a ≠ rawName b) &&
  env.all fun s =>
    validUtf8 (rawName s) && decide ((rawName s).length < 4294967296) &&
    decide (s.code < 18446744073709551616) && decide (s.fields.length ≤ MAX_ARRAY_COUNT) &&
    s.fields.all fun f => f.kind != .dflt || tvOkB [] f.ty (.leaf f.dflt)

theorem envOk_of_B (env : List Schema) (h : envOkB env = true) : EnvOk env := by
  simp only [envOkB, Bool.and_eq_true, List.all_eq_true, decide_eq_true_eq, Bool.or_eq_true, bne_iff_ne,
    ne_eq] at h
  obtain ⟨⟨hascii, hp⟩, hs⟩ := h
  have hn : ∀ s ∈ env, nameBytes s.name = rawName s := fun s m => nameBytes_ascii _ (hascii s m)
  constructor
  · exact hp.imp_of_mem fun ha hb ⟨hc, hr⟩ =>
      ⟨fun e => hr (by rw [rawName, e]; rfl), hc, by rwa [hn _ ha, hn _ hb]⟩
  all_goals
    intro s m
    obtain ⟨⟨⟨⟨hutf, hlen⟩, hcode⟩, hsize⟩, hdflt⟩ := hs s m
  · exact hcode
  · exact fun f hf hk => tvOkB_sound [] _ _ ((hdflt f hf).resolve_left (by simp [hk]))
  · exact hsize
  · exact hn s m ▸ ⟨hutf, hlen⟩

/-- generated obligation: the composites declared in the source have pairwise distinct descriptor
    names and codes (so a descriptor read off the wire designates one type), codes that fit a ulong,
    ASCII names, and defaults that are values of the field's own type -/
theorem env_okB : envOkB env = true := by rw [env_eq]; decide +kernel

theorem env_ok : EnvOk env := envOk_of_B env env_okB

/-- What the generated `serialize` writes for a typed value — with its null-buffering field loop —
    is the encoding of the value tree: descriptor by code, then the list of the fields with
    default-valued fields as null and the trailing nulls left out. (C20: going through the untyped
    tree and going straight to bytes agree.) -/
theorem typed_encoding_is_tree_encoding (env : List Schema) (ty : FTy) (tv : TV) (h : TVOk env ty tv) :
    encodeTyped env tv = encode (toTree env tv) :=
  (encTV_encFields_eq env).1 ty tv h

/-- C03: For every typed value of every declared composite — any combination of present and absent fields, any
    field values, composites nested in composites — the bytes written, followed by anything, decode as that
    type to exactly the value, leaving exactly what followed. -/
theorem typed_roundtrip (env : List Schema) (hE : EnvOk env) (ty : FTy) (tv : TV) (h : TVOk env ty tv)
    (hn : nest (toTree env tv) ≤ MAX_NESTING_DEPTH) (e tail : Bytes) (he : encodeTyped env tv = some e) :
    decodeTyped env ty (e ++ tail) = .ok (tv, tail) := by
  rw [typed_encoding_is_tree_encoding env ty tv h] at he
  unfold decodeTyped
  rw [value_roundtrip (toTree env tv) (WF_toTree env hE tv ty h) hn e tail he]
  simp only [readTyped, fromTree_toTree env hE tv ty h]

theorem typed_roundtrip_source (ty : FTy) (tv : TV) (h : TVOk env ty tv)
    (hn : nest (toTree env tv) ≤ MAX_NESTING_DEPTH) (e tail : Bytes) (he : encodeTyped env tv = some e) :
    decodeTyped env ty (e ++ tail) = .ok (tv, tail) :=
  typed_roundtrip env env_ok ty tv h hn e tail he

/-- C20: The bytes of a typed value decode, as an untyped value, to its value tree
    (`from_slice::<Value>(to_vec(x)) = to_value(x)`), and reading that tree as the type gives
    the value back (`from_value(to_value(x)) = x`). -/
theorem typed_via_tree (env : List Schema) (hE : EnvOk env) (ty : FTy) (tv : TV) (h : TVOk env ty tv)
    (hn : nest (toTree env tv) ≤ MAX_NESTING_DEPTH) (e : Bytes) (he : encodeTyped env tv = some e) :
    decode e = .ok (toTree env tv, []) ∧ fromTree env ty (toTree env tv) = some tv := by
  rw [typed_encoding_is_tree_encoding env ty tv h] at he
  exact ⟨decode_encode (toTree env tv) (WF_toTree env hE tv ty h) hn e he, fromTree_toTree env hE tv ty h⟩

/-- C20: The size computed for a typed value is the length of its encoding. -/
theorem typed_size_eq_length (env : List Schema) (hE : EnvOk env) (ty : FTy) (tv : TV) (h : TVOk env ty tv) :
    sizeTyped env tv = (encodeTyped env tv).map List.length := by
  rw [typed_encoding_is_tree_encoding env ty tv h]
  exact size_enc .none (toTree env tv) (WF_Widths _ (WF_toTree env hE tv ty h))

/-! ## non-vacuity: a transfer carrying a rejected state with an error meets the hypotheses -/

def sampleTransfer : TV :=
  .comp "amqp:transfer:list" [
    .leaf (.fixed .uint [0, 0, 0, 1]), .leaf (.fixed .uint [0, 0, 1, 0]), .leaf (.var .binary [1, 2, 3]),
    .absent, .leaf (.bool false), .leaf (.bool true), .absent,
    .comp "amqp:rejected:list" [
      .comp "amqp:error:list" [.leaf (.var .symbol (nameBytes "amqp:internal-error")),
        .leaf (.var .string [120]), .absent]],
    .leaf (.bool false), .leaf (.bool false), .leaf (.bool false)]

def sampleTy : FTy := .comp ["amqp:transfer:list"]

theorem sample_ok : TVOk env sampleTy sampleTransfer :=
  tvOkB_sound env sampleTransfer sampleTy (by rw [env_eq]; decide +kernel)

example : nest (toTree env sampleTransfer) ≤ MAX_NESTING_DEPTH := by rw [env_eq]; decide +kernel

/-- the bytes: described list, descriptor 0x14, eight fields (the three trailing defaults left out) -/
example : encodeTyped env sampleTransfer =
    some [0x00, 0x53, 0x14, 0xc0, 0x35, 0x08, 0x52, 0x01, 0x70, 0x00, 0x00, 0x01, 0x00, 0xa0, 0x03, 0x01, 0x02, 0x03,
      0x40, 0x42, 0x41, 0x40, 0x00, 0x53, 0x25, 0xc0, 0x1f, 0x01, 0x00, 0x53, 0x1d, 0xc0, 0x19, 0x02,
      0xa3, 0x13, 0x61, 0x6d, 0x71, 0x70, 0x3a, 0x69, 0x6e, 0x74, 0x65, 0x72, 0x6e, 0x61, 0x6c, 0x2d,
      0x65, 0x72, 0x72, 0x6f, 0x72, 0xa1, 0x01, 0x78] := by rw [env_eq]; decide +kernel

open Amqp.CodecSpec in
/-- C05: Whatever the encoding peer chooses at the composite level (as in
    `typed_tree_variants_read_back`) *and* at the byte level (every width variant of every node, as in
    `every_variant_accepted`), the bytes, followed by anything, decode as that type to exactly the
    value and leave exactly what followed. -/
theorem typed_variants_accepted (env : List Schema) (hE : EnvOk env) (ty : FTy) (tv : TV) (tch : TCh)
    (h : TVOk env ty tv) (hn : nest (toTreeV env tch tv) ≤ MAX_NESTING_DEPTH) (bch : Ch) (e tail : Bytes)
    (he : sEnc bch (toTreeV env tch tv) = some e) :
    decodeTyped env ty (e ++ tail) = .ok (tv, tail) := by
  have hw : WF (toTreeV env tch tv) := WF_toTreeV env hE tv ty tch h
  have hd : decode (e ++ tail) = .ok (toTreeV env tch tv, tail) :=
    every_variant_accepted _ hw hn bch e tail he
  have hf := typed_tree_variants_read_back env hE ty tv tch h
  unfold decodeTyped
  rw [hd]
  simp only [readTyped, hf]

open Amqp.CodecSpec in
theorem typed_variants_accepted_source (ty : FTy) (tv : TV) (tch : TCh)
    (h : TVOk env ty tv) (hn : nest (toTreeV env tch tv) ≤ MAX_NESTING_DEPTH) (bch : Ch) (e tail : Bytes)
    (he : sEnc bch (toTreeV env tch tv) = some e) :
    decodeTyped env ty (e ++ tail) = .ok (tv, tail) :=
  typed_variants_accepted env env_ok ty tv tch h hn bch e tail he

/-- non-vacuity: the sample transfer with the descriptor by name, two trailing nulls kept and the
    `more` flag's neighbours written out -/
def sampleTCh : TCh := .comp true 2 [false, false, false, false, false, true, false, false, true] []

example : (toTreeV env sampleTCh sampleTransfer != toTree env sampleTransfer) = true := by rw [env_eq]; decide +kernel
example : nest (toTreeV env sampleTCh sampleTransfer) ≤ MAX_NESTING_DEPTH := by rw [env_eq]; decide +kernel

end Amqp.Typed
