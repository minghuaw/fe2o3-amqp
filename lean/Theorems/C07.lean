/-
  C07 — Session flow control: never overrun the peer's incoming window;
  nothing lost; counters exact.

  `window_safe`, `fifo`, `buffer_implies_closed` and `counters_exact_out` quantify over *all*
  histories `ops` (any length), all initial next-outgoing-ids (including those within a
  window of the 2^32 wrap) and all flow contents; `drains`, `window_formula` (in Lemmas/Session, where
  the invariant uses it) and `counters_exact_in` speak of one operation from any state.  The arithmetic
  and the branch conditions of the model come from `/repo` (`Amqp.Gen.Session`, regenerated on every run).
-/
import Theorems.Lemmas.Session
import Theorems.Lemmas.SessionSplit
-- not used below: imported so that every theorem registered for C07 is reachable from this module
import Theorems.TxnRoute

namespace Amqp.Session
open Amqp Amqp.Gen.Session

/-- A history after the peer's begin: in-range wire values, no second begin. -/
def History.WF (ops : List Op) : Prop := ∀ op ∈ ops, op.WF

/-- `Safe s w ops`: running `ops` from `s`, every transfer frame emitted carries
    a transfer-id inside the window the peer last advertised (`w` initially,
    replaced by each incoming flow). -/
def Safe : St → Win → List Op → Prop
  | _, _, [] => True
  | s, w, op :: ops =>
      (∀ t ∈ transferIds (step s op).2, inWindow (winAfter s w op).base (winAfter s w op).len t) ∧
      Safe (step s op).1 (winAfter s w op) ops

/-- the endpoint just after it has sent its begin and processed the peer's -/
def started (noi iw ow bnoi biw bow : Nat) : St := onIncomingBegin (init noi iw ow) bnoi biw bow

theorem started_inv (noi iw ow bnoi biw bow : Nat) (h1 : noi < 4294967296) (h2 : biw < 4294967296) :
    SInv (started noi iw ow bnoi biw bow) ⟨noi, biw⟩ := by
  refine ⟨h1, h1, h1, h2, ?_⟩
  simp only [started, onIncomingBegin, init, on_incoming_begin.assign_remote_incoming_window_0]
  have := sdist_self noi
  omega

theorem safe_of_inv (ops : List Op) : ∀ (s : St) (w : Win), SInv s w → History.WF ops → Safe s w ops := by
  induction ops with
  | nil => intro _ _ _ _; trivial
  | cons op ops ih =>
    intro s w h hwf
    obtain ⟨h0, hwf⟩ := List.forall_mem_cons.mp hwf
    obtain ⟨hi, hall⟩ := (step_spec s op).inv h0 w h
    exact ⟨hall, ih _ _ hi hwf⟩

/-- No transfer frame is ever sent with a transfer-id outside
    `[next-incoming-id, next-incoming-id + incoming-window)` of the peer's last
    begin/flow, in serial-number arithmetic — for every history, every initial
    next-outgoing-id and every (even stale, shrinking, unset-next-incoming-id) flow. -/
theorem window_safe (noi iw ow bnoi biw bow : Nat) (ops : List Op)
    (h1 : noi < 4294967296) (h2 : biw < 4294967296) (hops : History.WF ops) :
    Safe (started noi iw ow bnoi biw bow) ⟨noi, biw⟩ ops :=
  safe_of_inv ops _ _ (started_inv noi iw ow bnoi biw bow h1 h2) hops

/-- Whatever was handed to the session is, in order and without loss or duplication, either already sent or
    still held: sent ++ held = held₀ ++ requested. -/
theorem fifo (ops : List Op) : ∀ s : St,
    uids (run s ops).2 ++ bufUids (run s ops).1 = bufUids s ++ ops.flatMap reqOf := by
  intro s
  fun_induction run s ops with
  | case1 s => exact (List.append_nil _).symm
  | case2 s op ops s1 o1 h1 s2 o2 h2 ih =>
    have hs := h1 ▸ step_spec s op
    rw [h2] at ih
    rw [uids_append, List.append_assoc, ih, ← List.append_assoc, hs.fifo, List.flatMap_cons, List.append_assoc]

/-- Frames are held back only while the endpoint's view of the peer's window is zero — after every
    operation of every history. -/
theorem buffer_implies_closed (ops : List Op) : ∀ s : St, Closed s → History.WF ops →
    Closed (run s ops).1 := by
  induction ops with
  | nil => intro s h _; exact h
  | cons op ops ih =>
    intro s h hwf
    obtain ⟨h0, hwf⟩ := List.forall_mem_cons.mp hwf
    exact ih _ ((step_spec s op).closed h0 h) hwf

/-- A flow releases exactly as many held frames as the recomputed window allows: `min window held`. -/
theorem drains (s : St) (f : InFlow) :
    (transferIds (step s (.inFlow f)).2).length = Nat.min (applyFlow s f).riw s.buf.length := by
  rw [step, onIncomingFlow_eq, echoOut]
  split <;> exact (drainBuf_spec s.buf (applyFlow s f)).count

/-- Over every history the emitted sequence reads as `NoiOk` says from next-outgoing-id on (mod 2^32),
    and the endpoint's counter ends up advanced by exactly one per transfer frame emitted. -/
theorem counters_exact_out (ops : List Op) : ∀ s : St,
    NoiOk s.noi (run s ops).2 ∧ (run s ops).1.noi = advNoi s.noi (run s ops).2 := by
  intro s
  fun_induction run s ops with
  | case1 s => exact ⟨trivial, rfl⟩
  | case2 s op ops s1 o1 h1 s2 o2 h2 ih =>
    have hs := h1 ▸ step_spec s op
    rw [h2, hs.noi] at ih
    exact ⟨NoiOk_append _ _ _ hs.noiOk ih.1, by rw [advNoi_append]; exact ih.2⟩

/-- Next-incoming-id is the peer's last stated next-outgoing-id advanced once per transfer frame received
    since, and every flow frame the endpoint emits reports exactly that value. -/
theorem counters_exact_in (s : St) (op : Op) :
    (step s op).1.nii = niiSpec s.nii op ∧ ∀ n ∈ flowNiis (step s op).2, n = niiSpec s.nii op :=
  ⟨(step_spec s op).nii, (step_spec s op).flows⟩

/-! ### non-vacuity: the hypotheses are met by concrete, non-trivial histories -/

/-- a history that crosses 2^32 with a held-back frame and a stale flow -/
def sampleOps : List Op :=
  [.outXfer ⟨1, true, none⟩, .outXfer ⟨2, false, none⟩, .outXfer ⟨3, true, some true⟩,
   .inFlow ⟨some 4294967295, 3, 7, 100, false⟩, .inXfer, .outXfer ⟨4, true, none⟩]

example : History.WF sampleOps := by
  intro op hop
  simp only [sampleOps, List.mem_cons, List.mem_nil_iff, or_false] at hop
  rcases hop with h | h | h | h | h | h <;> subst h <;> simp [Op.WF]

example : (run (started 4294967294 5 5 7 2 100) sampleOps).2.length = 4 := by decide

example : transferIds (run (started 4294967294 5 5 7 2 100) sampleOps).2
    = [4294967294, 4294967295, 0, 1] := by decide

end Amqp.Session

/-! ## one transfer-id per frame on the wire

`next-outgoing-id advances once per frame sent`: the session numbers what the engine hands
it (`counters_exact_out`), so what has to be shown is that each transfer the engine hands
over after `split_transfer` leaves the encoder as exactly one frame. -/

namespace Amqp.Frame
open Amqp.Gen.FrameK

theorem session_cut_payload (B : Nat) (l : SLens) (payload : Bytes) :
    piecesPayload (sessionSplit B l payload) = payload := by
  rcases sessionSplit_cases B l payload with h | ⟨_, c, cs, r, h, hp, _⟩
  · rw [h]; exact List.append_nil _
  · rw [h, ← hp]; simp [piecesPayload, List.map_map, Function.comp_def]

/-- every piece, together with the performative it was measured with, fits one frame body.  `hsz`:
    `split_transfer` adds the two lengths with `saturating_add` on `usize` (`sadd64` in `cond_if_1`);
    below 2^64 that is the sum -/
theorem session_cut_fits (B : Nat) (l : SLens) (payload : Bytes)
    (hsz : l.whole + payload.length < 18446744073709551616)
    (hfb : split_transfer.cond_if_1 B payload.length l.whole = true ∨ IsCut B l payload) :
    ∀ kc ∈ sessionSplit B l payload, l.of kc.1 + kc.2.length ≤ B := by
  rcases hfb with h1 | hc
  · intro kc hk
    simp only [sessionSplit, h1, if_true, List.mem_singleton] at hk
    subst hk
    simpa [split_transfer.cond_if_1, sadd64, Nat.not_le.mpr hsz, SLens.of] using h1
  · rcases sessionSplit_cases B l payload with h | ⟨_, c, cs, r, h, _, hc1, hcs, hr⟩
    · simp [sessionSplit, hc.1, hc.2] at h
    · intro kc hk
      rw [h, List.cons_append, List.mem_cons, List.mem_append, List.mem_map, List.mem_singleton] at hk
      rcases hk with rfl | ⟨x, hx, rfl⟩ | rfl
      · exact hc1
      · exact Nat.le_of_eq (hcs x hx)
      · exact hr

/-- Whatever performative encodings the session's transfers end up with, as long as none is longer than what
    `split_transfer` measured (the delivery-id the session fills in is at most as wide as the one measured),
    the encoder writes exactly one frame for each of them: the number of frames on the wire equals the number
    of transfer-ids the session consumed.  (`hsz` as in `session_cut_fits`.) -/
theorem one_frame_per_session_transfer (B : Nat) (l : SLens) (payload : Bytes)
    (hsz : l.whole + payload.length < 18446744073709551616)
    (hfb : split_transfer.cond_if_1 B payload.length l.whole = true ∨ IsCut B l payload)
    (perfOf : SKind × Bytes → Perfs)
    (hlen : ∀ kc ∈ sessionSplit B l payload, (perfOf kc).p0.length ≤ l.of kc.1) :
    (sessionSplit B l payload).flatMap (fun kc => split B (perfOf kc) kc.2) =
      (sessionSplit B l payload).map (fun kc => ((perfOf kc).p0, kc.2)) := by
  rw [List.map_eq_flatMap, List.flatMap_def, List.flatMap_def]
  refine congrArg List.flatten (List.map_congr_left fun kc hk => ?_)
  -- the encoder does not cut a transfer that fits
  have hfit := Nat.le_trans (Nat.add_le_add_right (hlen kc hk) _) (session_cut_fits B l payload hsz hfb kc hk)
  exact split_single B _ _ (by simpa [encode_transfer.cond_if_0] using hfit)

theorem session_cut_count (B : Nat) (l : SLens) (payload : Bytes) (hc : IsCut B l payload) :
    2 ≤ (sessionSplit B l payload).length := by
  rcases sessionSplit_cases B l payload with h | ⟨_, c, cs, r, h, _⟩
  · simp [sessionSplit, hc.1, hc.2] at h
  · rw [h]; simp

-- non-vacuity: a 1000-byte payload, 512-byte frame body, performatives of 30/31/12 bytes
example : IsCut 512 ⟨30, 31, 12⟩ (List.replicate 1000 0) := by
  unfold IsCut; rw [List.length_replicate]; exact ⟨by decide, by decide⟩

example : (sessionSplit 512 ⟨30, 31, 12⟩ (List.replicate 1000 0)).map (fun kc => kc.2.length) = [481, 500, 19] := by
  decide +kernel

end Amqp.Frame
