/-
  C05 — encodings are valid AMQP 1.0, and every valid encoding variant is accepted.

  `Amqp.CodecSpec.sEnc ch v` is the encoding of `v` the specification permits when the encoder
  makes the choices `ch` (width variants, compact forms, list0, boolean 0x56, 8- or 32-bit
  headers); it is written with the specification's literal constructors.  The decoder accepts
  all of them, and what the encoder produces is one of them.
-/
import Theorems.Lemmas.CodecSpec
import Theorems.Typed
import Theorems.Enums

namespace Amqp.CodecSpec
open Amqp.Codec Amqp.Gen.Codes

/-- the bytes `to_vec` produces are a valid AMQP 1.0 encoding of exactly that value: it makes one of the
    choices the specification leaves to the encoder -/
theorem encoding_is_valid (v : Value) (hw : WF v) (e : Bytes) (he : encode v = some e) :
    ∃ ch, sEnc ch v = some e := enc_is_spec v hw e he

/-- an array written with the one-byte integer constructor and an 8-bit header, and an array of
    strings with 8-bit lengths: both are encodings the specification gives for these choices, and both
    are accepted (the encoder itself never writes them) -/
example : sEnc (.node false false [.leaf 1 false]) (.array [.fixed .uint [0, 0, 0, 5], .fixed .uint [0, 0, 0, 6]]) =
    some [0xe0, 0x04, 0x02, 0x52, 0x05, 0x06] := by decide

example : sEnc (.node true false [.leaf 0 false]) (.array [.var .string [104, 105], .var .string [33]]) =
    some [0xf0, 0, 0, 0, 10, 0, 0, 0, 2, 0xa1, 2, 104, 105, 1, 33] := by decide

example : decode ([0xe0, 0x04, 0x02, 0x52, 0x05, 0x06] ++ [0x99]) =
    .ok (.array [.fixed .uint [0, 0, 0, 5], .fixed .uint [0, 0, 0, 6]], [0x99]) :=
  every_variant_accepted (.array [.fixed .uint [0, 0, 0, 5], .fixed .uint [0, 0, 0, 6]])
    (Amqp.Typed.wfB_sound _ (by decide)) (by decide)
    (.node false false [.leaf 1 false]) [0xe0, 0x04, 0x02, 0x52, 0x05, 0x06] [0x99] (by decide)

/-- a nested value written with none of the encoder's own choices (32-bit headers, one-byte
    boolean, full-width zero, 32-bit string length) is accepted -/
def sampleV : Value := .list [.bool true, .fixed .uint [0, 0, 0, 0], .var .string [104, 105],
  .map [.var .symbol [97], .fixed .long [255, 255, 255, 255, 255, 255, 255, 254]],
  .described (.fixed .ulong [0, 0, 0, 0, 0, 0, 0, 36]) (.list [])]

def sampleCh : Ch := .node true false [.leaf 1 false, .leaf 0 false, .leaf 0 true,
  .node true false [.leaf 0 true, .leaf 1 false], .desc (.leaf 1 false) (.node true false [])]

example : (sEnc sampleCh sampleV).isSome = true ∧ (sEnc sampleCh sampleV) ≠ encode sampleV := by decide

theorem sampleV_wf : WF sampleV := Amqp.Typed.wfB_sound _ (by decide)

example : WF sampleV := sampleV_wf

example (e : Bytes) (h : sEnc sampleCh sampleV = some e) : decode e = .ok (sampleV, []) := by
  have := every_variant_accepted sampleV sampleV_wf (by decide) sampleCh e [] h
  simpa using this

/-- the exception on record: an array whose elements have a zero-width constructor (here three
    `true`: `e0 02 03 41`) is a valid encoding which the decoder refuses, because it bounds the
    element count by the size field (a hardening against count-inflation pinned by the library's
    own tests).  Such constructors are outside `sEnc`, whose element choices are the full-width and the
    one-byte forms. -/
theorem zero_width_array_refused (fuel depth zw : Nat) :
    dec (fuel + 1) depth ⟨[0xe0, 2, 3, 0x41], none, zw⟩ = .error .badValue := by
  have hA : isCode 224 = true := by decide
  simp [dec, codeOrPeek, codeOrRead, cList8, cList0, cList32, cMap8, cMap32, cArray8, cArray32,
    cDescribedType, hA, next?, MAX_ARRAY_COUNT, bind, Except.bind, pure, Except.pure]

end Amqp.CodecSpec
