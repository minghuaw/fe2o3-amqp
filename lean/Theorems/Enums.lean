/-
  C03 / C05 — enumerations that travel as symbols (error conditions, distribution modes, expiry policies,
  transaction capabilities and errors): the table a value is written with and the table a symbol is read
  with are regenerated from every such `match` in fe2o3-amqp-types/src (`Amqp.Gen.Enums`); they are
  inverse to each other, and the error conditions are the ones of the standard.
-/
import Amqp.Gen.Enums

namespace Amqp.Enums
open Amqp.Gen.Enums

def lookup (k : String) : List (String × String) → Option String
  | [] => none
  | (a, b) :: rest => if a == k then some b else lookup k rest

/-- written with `to` (variant, symbol), read with `of` (symbol, variant): reading what was written gives
    the variant back, and nothing is read as a variant that is not written as that symbol -/
def inverseB (to of : List (String × String)) : Bool :=
  to.all (fun p => lookup p.2 of == some p.1) && of.all (fun p => lookup p.2 to == some p.1)

/-- for every table a value is written with: every table of the same file that reads the same
    enumeration is its inverse, and there is one (`"Self"`: the reading `match` names its variants
    `Self::…`, so the table does not carry the enumeration's name and the file decides) -/
def tablesOkB (ts : List Table) : Bool :=
  ts.all (fun t =>
    t.dir != "to" ||
      (let readers := ts.filter (fun u => u.file == t.file && u.dir == "of" && (u.enum == t.enum || u.enum == "Self"))
       !readers.isEmpty && readers.all (fun u => inverseB t.pairs u.pairs)))

/-- C03: Every enumeration of fe2o3-amqp-types that is written as a symbol is read back from that symbol as
    the same variant, for every variant — error conditions of all five kinds, distribution modes, terminus
    expiry policies, transaction capabilities. -/
theorem symbol_tables_inverse : tablesOkB all = true := by decide +kernel

def symbolsOf (enum : String) : List String :=
  match all.find? (fun t => t.enum == enum && t.dir == "to") with
  | some t => t.pairs.map (·.2)
  | none => []

/-- C05: The symbols the error conditions are written as are those of the standard (part 2 §2.8.15–2.8.18,
    part 4 §4.5.8), written here by hand. -/
theorem error_conditions_match_spec :
    symbolsOf "AmqpError" =
      ["amqp:internal-error", "amqp:not-found", "amqp:unauthorized-access", "amqp:decode-error",
       "amqp:resource-limit-exceeded", "amqp:not-allowed", "amqp:invalid-field", "amqp:not-implemented",
       "amqp:resource-locked", "amqp:precondition-failed", "amqp:resource-deleted", "amqp:illegal-state",
       "amqp:frame-size-too-small"] ∧
    symbolsOf "ConnectionError" =
      ["amqp:connection:forced", "amqp:connection:framing-error", "amqp:connection:redirect"] ∧
    symbolsOf "SessionError" =
      ["amqp:session:window-violation", "amqp:session:errant-link", "amqp:session:handle-in-use",
       "amqp:session:unattached-handle"] ∧
    symbolsOf "LinkError" =
      ["amqp:link:detach-forced", "amqp:link:transfer-limit-exceeded", "amqp:link:message-size-exceeded",
       "amqp:link:redirect", "amqp:link:stolen"] ∧
    symbolsOf "TransactionError" =
      ["amqp:transaction:unknown-id", "amqp:transaction:rollback", "amqp:transaction:timeout"] := by
  decide +kernel

/-- two look-alike arms crossed on the reading side are not an inverse -/
example : inverseB [("ResourceLocked", "amqp:resource-locked"), ("ResourceDeleted", "amqp:resource-deleted")]
    [("amqp:resource-locked", "ResourceDeleted"), ("amqp:resource-deleted", "ResourceLocked")] = false := by decide +kernel

/-- non-vacuity: at least the five error enumerations and three others are there -/
example : (all.filter (fun t => t.dir == "to")).length ≥ 8 := by decide +kernel

end Amqp.Enums
