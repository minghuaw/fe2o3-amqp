/-
  C17 — negotiated limits: channel-max and idle time-outs.
-/
import Amqp.Limits
import Theorems.Lemmas.Slab

namespace Amqp.Limits
open Amqp.Handles Amqp.Gen.Limits

/-- `on_incoming_open`: the agreed channel-max is the smaller of the two -/
theorem agreed_is_min (l r : Nat) : agreed l r = Nat.min l r := rfl

/-- the slab is full up to its length: `live` and `free` account for every key below `len` -/
def Counted (s : Slab) : Prop := s.live.length + s.free.length = s.len

theorem counted_empty : Counted Slab.empty := rfl

theorem counted_iff (s : Slab) : Counted s ↔ s.slots.length = s.len := by
  simp only [Counted, Slab.slots, List.length_append, List.length_map, Nat.add_comm]

theorem allocate_eq (s : Slab) (bound : Nat) : allocate s bound =
    if bound < s.vacantKey then (s, .maxReached) else ((s.insert "").1, .channel s.vacantKey) := by
  simp only [allocate, allocate_session.cond_if_0, gt_iff_lt, decide_eq_true_eq]

theorem run_induct (bound : Nat) (P : Slab → Prop) (Q : Option AllocRes → Prop)
    (hstep : ∀ s op, P s → P (step bound s op).1 ∧ Q (step bound s op).2) (ops : List Op) :
    ∀ s, P s → P (run bound s ops).1 ∧ ∀ r ∈ (run bound s ops).2, Q r := by
  induction ops with
  | nil => exact fun s h => ⟨h, fun _ hr => nomatch hr⟩
  | cons op ops ih =>
    intro s h
    obtain ⟨h1, h2⟩ := hstep s op h
    obtain ⟨i1, i2⟩ := ih _ h1
    exact ⟨i1, fun r hr => (List.mem_cons.mp hr).elim (· ▸ h2) (i2 r)⟩

theorem step_channel_le (bound : Nat) (s : Slab) (op : Op) (ch : Nat)
    (h : (step bound s op).2 = some (.channel ch)) : ch ≤ bound := by
  cases op with
  | free k => cases h
  | alloc =>
    simp only [step, allocate_eq] at h
    split at h
    · cases h
    · cases h; exact Nat.not_lt.mp ‹_›

/-- Whatever the history of begins and ends, a session is only ever begun on a channel no greater
    than the agreed channel-max -/
theorem channel_within_max (bound : Nat) (ops : List Op) : ∀ (s : Slab), ∀ r ∈ (run bound s ops).2,
    ∀ ch, r = some (.channel ch) → ch ≤ bound := fun s =>
  (run_induct bound (fun _ => True) _ (fun s op _ => ⟨trivial, step_channel_le bound s op⟩) ops s trivial).2

theorem step_inv (bound : Nat) (s : Slab) (op : Op) (h : SlabInv s ∧ Counted s) :
    SlabInv (step bound s op).1 ∧ Counted (step bound s op).1 := by
  have c := (counted_iff s).mp h.2
  cases op with
  | alloc =>
    simp only [step, allocate_eq]
    split
    · exact h
    · refine ⟨insert_inv "" h.1, (counted_iff _).mpr ?_⟩
      rcases s.insert_slots "" with ⟨p, e⟩ | ⟨e1, e2⟩
      · rw [e, p.length_eq, c]
      · rw [e1, e2, List.length_cons, c]
  | free k =>
    refine ⟨remove_inv k h.1, (counted_iff _).mpr ?_⟩
    show (s.remove k).1.slots.length = (s.remove k).1.len
    rw [(s.remove_slots k h.1.liveNodup).length_eq, s.remove_len, c]

theorem run_inv (bound : Nat) (ops : List Op) : ∀ (s : Slab), SlabInv s → Counted s →
    SlabInv (run bound s ops).1 ∧ Counted (run bound s ops).1 := fun s h c =>
  (run_induct bound _ (fun _ => True) (fun s op h => ⟨step_inv bound s op h, trivial⟩) ops s ⟨h, c⟩).1

theorem step_len (bound : Nat) (s : Slab) (op : Op) (h : s.len ≤ bound + 1) : (step bound s op).1.len ≤ bound + 1 := by
  cases op with
  | free k => exact (s.remove_len k).symm ▸ h
  | alloc =>
    simp only [step, allocate_eq]
    split
    · exact h
    · exact Nat.le_trans (s.insert_len_le "") (Nat.max_le.mpr ⟨h, Nat.succ_le_succ (Nat.not_lt.mp ‹_›)⟩)

/-- no key above the bound is ever created -/
theorem run_len (bound : Nat) (ops : List Op) : ∀ (s : Slab), s.len ≤ bound + 1 → (run bound s ops).1.len ≤ bound + 1 := fun s h =>
  (run_induct bound (·.len ≤ bound + 1) (fun _ => True) (fun s op h => ⟨step_len bound s op h, trivial⟩) ops s h).1

/-- A begin is refused locally only when all channels `0 ..= channel-max` carry a live session -/
theorem refused_only_when_full (bound : Nat) (s : Slab) (c : Counted s) (hlen : s.len ≤ bound + 1)
    (hfl : ∀ k ∈ s.free, k < s.len)
    (hr : (allocate s bound).2 = .maxReached) : s.live.length = bound + 1 := by
  rw [allocate_eq] at hr
  split at hr
  · next hgt =>
    -- a vacated key would be below `len`, hence within the bound: nothing is vacant
    rcases s.vacantKey_cases with ⟨hf, e⟩ | hm
    · unfold Counted at c
      rw [hf, List.length_nil, Nat.add_zero] at c
      rw [c]
      exact Nat.le_antisymm hlen (e ▸ hgt)
    · exact absurd (Nat.lt_of_lt_of_le (hfl _ hm) hlen) (Nat.not_lt.mpr hgt)
  · cases hr

/-- within the agreed channel-max, `allocate_session` hands out the slab's vacant key -/
theorem alloc_below_bound_succeeds (bound : Nat) (s : Slab) (hk : s.vacantKey ≤ bound) :
    (allocate s bound).2 = .channel s.vacantKey := by
  rw [allocate_eq, if_neg (Nat.not_lt.mpr hk)]

theorem half_timeout (idle : Nat) (h : 0 < idle) : 0 < idle * 500 ∧ idle * 500 < idle * 1000 :=
  ⟨Nat.mul_pos h (by decide), (Nat.mul_lt_mul_left h).mpr (by decide)⟩

/-- no interval of the advertised length without a frame: the heartbeat period is strictly
    shorter than the idle-time-out the peer advertised (both in microseconds) -/
theorem heartbeat_period_lt_timeout (idle : Nat) (h : 0 < idle) :
    ∃ p, heartbeatPeriod idle = some p ∧ 0 < p ∧ p < idle * 1000 := by
  refine ⟨idle * 500, ?_, half_timeout idle h⟩
  rw [heartbeatPeriod, if_neg (Nat.ne_of_gt h)]; rfl

theorem next_multiple (p t : Nat) (hp : 0 < p) : ∃ k, t < k * p ∧ k * p ≤ t + p :=
  ⟨t / p + 1, by rw [Nat.add_mul, Nat.one_mul]; exact Nat.lt_div_mul_add hp,
    by rw [Nat.add_mul, Nat.one_mul]; exact Nat.add_le_add_right (Nat.div_mul_le_self t p) p⟩

/-- after any instant `t` the next beat comes within one period, hence strictly within the
    advertised time-out -/
theorem next_beat_in_time (idle t : Nat) (h : 0 < idle) :
    ∃ k, t < k * (idle * 500) ∧ k * (idle * 500) ≤ t + idle * 500 ∧ k * (idle * 500) - t < idle * 1000 := by
  obtain ⟨k, h1, h2⟩ := next_multiple (idle * 500) t (half_timeout idle h).1
  exact ⟨k, h1, h2, Nat.lt_of_le_of_lt (Nat.sub_le_of_le_add (Nat.add_comm .. ▸ h2)) (half_timeout idle h).2⟩

/-- no heartbeat is owed to a peer that advertised none -/
theorem no_heartbeat_without_timeout : heartbeatPeriod 0 = none := rfl

/-! ## the endpoint's own idle time-out (`Transport::poll_next`: a delay re-armed by every frame) -/

/-- specification, not a model of code (the model's deadline is `Reader.deadline`): `T` has run out at
    `now`, the last frame having arrived at `last` -/
def expired (T last now : Nat) : Bool := decide (now - last ≥ T)

/-- not while frames keep arriving in time -/
theorem alive_while_frames_arrive (T : Nat) (arrivals : List Nat) (now last : Nat)
    (_hlast : last ∈ arrivals) (hnow : now - last < T) : expired T last now = false :=
  decide_eq_false (Nat.not_le.mpr hnow)

/-- once nothing has arrived for that long -/
theorem expires_after_silence (T last now : Nat) (h : last + T ≤ now) : expired T last now = true :=
  decide_eq_true (Nat.le_sub_of_add_le' h)

/-- generated obligation (`Transport::poll_next`): `framed_read.poll_next` stands before `delay.poll`, and
    `delay.reset` is there -/
theorem source_input_first : inputFirst = true := by decide

/-- a late reader does not time out: however late the engine polls its input (a slow write, a full queue,
    the scheduler), a waiting frame is read and re-arms the deadline; the time-out is reported only when
    nothing waits -/
theorem timeout_only_when_nothing_waits (T : Nat) (r : Reader) (now : Nat)
    (h : (rstep inputFirst T r (.pollAt now)).2 = some .timeout) : r.waiting = 0 ∧ r.deadline ≤ now := by
  rw [source_input_first] at h
  by_cases hw : 0 < r.waiting
  · rw [rstep, poll, if_pos rfl, decide_eq_true hw, if_pos rfl] at h; cases h
  · by_cases hd : r.deadline ≤ now
    · exact ⟨Nat.eq_zero_of_not_pos hw, hd⟩
    · rw [rstep, poll, if_pos rfl, decide_eq_false hw, decide_eq_false hd] at h; cases h

/-- every frame read re-arms the deadline a full time-out ahead -/
theorem frame_rearms (T : Nat) (r : Reader) (now : Nat) (hw : 0 < r.waiting) :
    rstep inputFirst T r (.pollAt now) = ({ waiting := r.waiting - 1, deadline := now + T }, some .frame) := by
  rw [source_input_first, rstep, poll, if_pos rfl, decide_eq_true hw, if_pos rfl]

/-- with the deadline looked at first, a frame that arrived in time is lost to a time-out once the reader
    is late: why `source_input_first` is an obligation -/
theorem deadline_first_times_out_a_live_peer :
    (rstep false 100 { waiting := 1, deadline := 100 } (.pollAt 150)).2 = some .timeout := by decide

example : (run 1 Slab.empty [.alloc, .alloc, .alloc, .free 0, .alloc]).2 =
    [some (.channel 0), some (.channel 1), some .maxReached, none, some (.channel 0)] := by decide

end Amqp.Limits
