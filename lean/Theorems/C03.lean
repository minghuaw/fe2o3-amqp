/-
  C03 — Wire codec round-trip: decode(encode(x)) = x for every AMQP value.

  `Amqp.Codec` mirrors `serde_amqp`'s encoder and `Value` decoder; the format
  codes, offsets and thresholds it uses are regenerated from the source.  The
  theorems quantify over *all* values satisfying the explicit, decidable
  well-formedness predicate `WF` (what the encoder/decoder support), of any
  size and nesting up to the decoder's own depth limit, followed by any bytes.
-/
import Theorems.Lemmas.CodecSpec
import Theorems.Lemmas.CodecWF

namespace Amqp.Codec
open Amqp.Gen.Codes

/-- For every well-formed value `v` (every primitive of every width class, lists / maps / arrays / described
    values nested up to the decoder's depth limit): the bytes `to_vec` produces, followed by *anything*,
    decode to exactly `v`, leaving exactly what followed. -/
theorem value_roundtrip (v : Value) (hw : WF v) (hn : nest v ≤ MAX_NESTING_DEPTH) (e tail : Bytes)
    (he : encode v = some e) : decode (e ++ tail) = .ok (v, tail) :=
  decode_ok_of_dec tail (cost_le .none v hw e he) fun fuel hf => rt v hw e he tail fuel _ _ hf hn

/-- In particular `from_slice(to_vec(v)) = v`. -/
theorem decode_encode (v : Value) (hw : WF v) (hn : nest v ≤ MAX_NESTING_DEPTH) (e : Bytes)
    (he : encode v = some e) : decode e = .ok (v, []) := by
  have := value_roundtrip v hw hn e [] he
  simpa using this

/-- A string, binary or symbol of at most 2^32 - 5 bytes always encodes: the length limit is the only way for
    `serialize_str` / `serialize_bytes` to fail. -/
theorem enc_scalar_total (k : VarKind) (bs : Bytes) (h : bs.length ≤ U32_MAX_MINUS_4) :
    ∃ e, encode (.var k bs) = some e := by
  simp only [encode, enc, encVar]
  split
  · exact ⟨_, rfl⟩
  · simp

/-- generated obligation: the byte accepted by `TryFrom<u8>` for each variant is
    that variant's discriminant (the decoder and the encoder use the same table) -/
theorem codes_consistent : ∀ p ∈ tryFromArms, p.1 = p.2 := by decide

theorem codes_complete : tryFromArms.map (·.2) = discriminants := by decide

/-- generated obligation: every `match` on a length in the encoder (ser.rs) and in the size calculator
    (size_ser.rs) uses the width classes of the model — one-byte form up to `U8_MAX_MINUS_1`, four-byte
    form from `U8_MAX` up to `U32_MAX_MINUS_4` (lists: from 1, the empty list has its own code) — and the
    two files use the same classes function by function.  A boundary moved in either file (a size
    computed for the other width class than the one written) breaks this. -/
theorem width_classes_agree :
    ranges_ser_all = [("ranges_ser_serialize_str_0", [(0, 254), (255, 4294967291)]),
      ("ranges_ser_serialize_str_1", [(0, 254), (255, 4294967291)]),
      ("ranges_ser_serialize_bytes_0", [(0, 254), (255, 4294967291)]),
      ("ranges_ser_write_array_0", [(0, 254), (255, 4294967291)]),
      ("ranges_ser_write_list_0", [(1, 254), (255, 4294967291)]),
      ("ranges_ser_write_map_0", [(0, 254), (255, 4294967291)])] ∧
    ranges_size_ser_all = [("ranges_size_ser_serialize_i32_0", [(-128, 127)]),
      ("ranges_size_ser_serialize_i64_0", [(-128, 127)]),
      ("ranges_size_ser_serialize_u32_0", [(1, 255)]),
      ("ranges_size_ser_serialize_u64_0", [(1, 255)]),
      ("ranges_size_ser_serialize_str_0", [(0, 254), (255, 4294967291)]),
      ("ranges_size_ser_serialize_str_1", [(0, 254), (255, 4294967291)]),
      ("ranges_size_ser_serialize_bytes_0", [(0, 254), (255, 4294967291)]),
      ("ranges_size_ser_list_size_0", [(1, 254), (255, 4294967291)]),
      ("ranges_size_ser_array_size_0", [(0, 254), (255, 4294967291)]),
      ("ranges_size_ser_map_size_0", [(0, 254), (255, 4294967291)])] ∧
    U8_MAX_MINUS_1 = 254 ∧ U8_MAX = 255 ∧ U32_MAX_MINUS_4 = 4294967291 := ⟨rfl, rfl, rfl, rfl, rfl⟩

/-! ### non-vacuity: a nested value with every kind of node meets the hypotheses -/

def sample : Value :=
  .list [.null, .bool true, .fixed .uint [0, 0, 0, 5], .fixed .int [255, 255, 255, 128],
    .var .string [104, 105], .map [.var .symbol [97], .fixed .long [0, 0, 0, 0, 0, 0, 1, 0]],
    .array [.fixed .ushort [0, 1], .fixed .ushort [0, 2]],
    .described (.fixed .ulong [0, 0, 0, 0, 0, 0, 0, 112]) (.list [])]

example : WF sample := Amqp.Typed.wfB_sound _ (by decide)

example : nest sample ≤ MAX_NESTING_DEPTH := by decide
example : (encode sample).isSome = true := by decide

end Amqp.Codec
