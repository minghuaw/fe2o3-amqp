/-
  C20 — All codec entry points agree.
-/
import Theorems.C03
-- imported so that the theorems registered for C20 in these modules are reachable from this one
import Theorems.Typed
import Theorems.Lazy
import Theorems.IoRead
import Theorems.Chunks
import Theorems.FrameBody

namespace Amqp.Codec
open Amqp.Gen.Codes

/-- The size reported without encoding equals the length of the encoding — for *every* value whose scalars
    have the width of their kind (no other well-formedness needed), in every array-element context; both fail
    together on over-long inputs. -/
theorem size_eq_length (ctx : Ctx) (v : Value) (hw : Widths v) :
    size ctx v = (enc ctx v).map List.length :=
  size_enc ctx v hw

/-- Whatever follows an encoded value (e.g. a transfer's payload after its performative) is left
    exactly as it was. -/
theorem tail_untouched (v : Value) (hw : WF v) (hn : nest v ≤ MAX_NESTING_DEPTH) (e tail : Bytes)
    (he : encode v = some e) : ∃ v', decode (e ++ tail) = .ok (v', tail) :=
  ⟨v, value_roundtrip v hw hn e tail he⟩

example : size .none sample = (enc .none sample).map List.length := by decide

end Amqp.Codec
