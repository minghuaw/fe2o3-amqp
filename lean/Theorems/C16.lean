/-
  C16 — cancelling a pending send or recv loses nothing and corrupts nothing.
-/
import Amqp.Cancel

namespace Amqp.Cancel
open Amqp.Gen.Cancel

theorem source_send_is_atomic : atomicPath = true := by decide

theorem source_recv_parks : recvParks = true :=
  -- the generated text and the expected one are compared as whole literals, not character by character
  (Bool.and_eq_true _ _).mpr ⟨by decide, beq_self_eq_true recv_inner.cond_if_1_src⟩

theorem source_topup_reset_last : topupResetLast = true := by decide

theorem frames_length (k t : Nat) : (frames k t).length = t := by simp [frames]

theorem wholeOf_append (a b : List (Nat × Nat)) : wholeOf (a ++ b) = wholeOf a ++ wholeOf b := by
  simp [wholeOf, List.flatMap_append]

theorem wholeOf_single (k t : Nat) : wholeOf [(k, t)] = frames k t := by simp [wholeOf]

theorem transfers_eq (m len : Nat) : transfers m len = if m = 0 ∨ len ≤ m then 1 else (len + m - 1) / m := by
  unfold transfers transfer_count.value
  simp only [Bool.or_eq_true, beq_iff_eq, decide_eq_true_eq]

theorem transfers_pos (m len : Nat) : 0 < transfers m len := by
  rw [transfers_eq]
  split
  · exact Nat.one_pos
  · next h =>
    have hl : 0 < len := Nat.lt_of_le_of_lt (Nat.zero_le m) (Nat.lt_of_not_le fun e => h (Or.inr e))
    exact Nat.div_pos (Nat.le_sub_one_of_lt (Nat.lt_add_of_pos_left hl)) (Nat.pos_of_ne_zero fun e => h (Or.inl e))

theorem transfers_one (m len : Nat) (h : m = 0 ∨ len ≤ m) : transfers m len = 1 := by
  rw [transfers_eq, if_pos h]

/-- the cut pieces cover the message: `t` pieces of at most `m` bytes, the first `t-1` full -/
theorem transfers_cover (m len : Nat) (hm : 0 < m) (h : m < len) :
    (transfers m len - 1) * m < len ∧ len ≤ transfers m len * m := by
  rw [transfers_eq, if_neg (not_or.mpr ⟨Nat.ne_of_gt hm, Nat.not_le.mpr h⟩)]
  have h1 := Nat.div_mul_le_self (len + m - 1) m
  have h2 := Nat.lt_div_mul_add (a := len + m - 1) hm
  rw [Nat.sub_mul, Nat.one_mul]
  omega

/-- the call that is under way and has not taken its credit yet: its delivery is the next to begin (`Inv.order`) -/
def pendingK : Option Cur → List Nat
  | some ⟨k, _, _, none⟩ => [k]
  | _ => []

structure Inv (s : St) : Prop where
  /-- what has left the link, plus what the send in progress still owes, is whole deliveries -/
  sent : s.sent ++ owed s.cur = wholeOf s.begun
  /-- the delivery-count advanced once per delivery begun -/
  dc : s.dc = s.begun.length
  /-- no credit is used up otherwise -/
  credit : s.credit + s.dc = s.granted
  /-- the reserve-then-commit path never holds a credit across an await -/
  atomicNone : ∀ c, s.cur = some c → c.atomic = true → c.pushed = none
  /-- deliveries begin in the order of the calls, each at most once -/
  order : List.Sublist (s.begun.map (·.1) ++ pendingK s.cur) s.started
  /-- a send that returned has its delivery begun -/
  doneBegun : ∀ k ∈ s.done, k ∈ s.begun.map (·.1)
  /-- so has one that took its credit -/
  curBegun : ∀ c i, s.cur = some c → c.pushed = some i → c.k ∈ s.begun.map (·.1)

theorem inv_init (cap m : Nat) : Inv (init cap m) := by
  constructor <;> simp [init, St.sent, owed, wholeOf, pendingK]

theorem owed_some (c : Cur) :
    owed (some c) = match c.pushed with | none => [] | some i => (frames c.k c.t).drop i := by
  obtain ⟨k, t, a, p⟩ := c; cases p <;> rfl

theorem pendingK_some (c : Cur) : pendingK (some c) = match c.pushed with | none => [c.k] | some _ => [] := by
  obtain ⟨k, t, a, p⟩ := c; cases p <;> rfl

/-- a send between its credit and its last transfer: the credit for `c` is taken and `i` of its transfers are
    queued, whatever `s.cur` says -/
structure Taken (s : St) (c : Cur) (i : Nat) : Prop where
  sent : s.sent ++ (frames c.k c.t).drop i = wholeOf s.begun
  dc : s.dc = s.begun.length
  credit : s.credit + s.dc = s.granted
  order : List.Sublist (s.begun.map (·.1)) s.started
  doneBegun : ∀ k ∈ s.done, k ∈ s.begun.map (·.1)
  begun : c.k ∈ s.begun.map (·.1)

theorem Inv.taken {s : St} (h : Inv s) {c : Cur} {i : Nat} (hc : s.cur = some c) (hp : c.pushed = some i) : Taken s c i where
  sent := by simpa only [hc, owed_some, hp] using h.sent
  dc := h.dc
  credit := h.credit
  order := by simpa only [hc, pendingK_some, hp, List.append_nil] using h.order
  doneBegun := h.doneBegun
  begun := h.curBegun c i hc hp

theorem Inv.take {s : St} (h : Inv s) {c : Cur} (hc : s.cur = some c) (hp : c.pushed = none) (hcr : 1 ≤ s.credit) :
    Taken { s with credit := s.credit - 1, dc := s.dc + 1, begun := s.begun ++ [(c.k, c.t)] } c 0 where
  sent := by
    have := h.sent
    simp only [hc, owed_some, hp, List.append_nil] at this
    rw [wholeOf_append, wholeOf_single, ← this]; rfl
  dc := by rw [List.length_append, ← h.dc]; rfl
  credit := by
    show s.credit - 1 + (s.dc + 1) = s.granted
    rw [Nat.add_comm s.dc 1, ← Nat.add_assoc, Nat.sub_add_cancel hcr]; exact h.credit
  order := by simpa only [hc, pendingK_some, hp, List.map_append, List.map_cons, List.map_nil] using h.order
  doneBegun := fun k hk => by rw [List.map_append]; exact List.mem_append_left _ (h.doneBegun k hk)
  begun := by rw [List.map_append]; exact List.mem_append_right _ (List.mem_singleton_self _)

theorem Taken.finish {s : St} {c : Cur} {i : Nat} (h : Taken s c i) :
    Inv { s with q := s.q ++ (frames c.k c.t).drop i, cur := none, done := s.done ++ [c.k] } where
  sent := by simpa only [St.sent, owed, List.append_nil, List.append_assoc] using h.sent
  dc := h.dc
  credit := h.credit
  atomicNone := fun _ hc => nomatch hc
  order := by simpa only [pendingK, List.append_nil] using h.order
  doneBegun := fun k hk => (List.mem_append.mp hk).elim (h.doneBegun k) (fun hk => List.mem_singleton.mp hk ▸ h.begun)
  curBegun := fun _ _ hc => nomatch hc

theorem Taken.push {s : St} {c : Cur} {i : Nat} (h : Taken s c i) (hna : c.atomic = false) : Inv (pushSome s c i) := by
  simp only [pushSome]
  refine iteInduction (fun hn => ?_) (fun _ => ?_)
  · rw [List.take_of_length_le (by simp only [List.length_drop, frames_length]; omega)]
    exact h.finish
  · -- the queue is full: the send stays in progress, `i + n` of its transfers queued
    exact {
      sent := by
        have := h.sent
        simp only [St.sent, owed, List.append_assoc] at this ⊢
        rw [← List.drop_drop, List.take_append_drop]; exact this
      dc := h.dc
      credit := h.credit
      atomicNone := fun c' hc' ha => by cases hc'; simp [hna] at ha
      order := by simpa only [pendingK, List.append_nil] using h.order
      doneBegun := h.doneBegun
      curBegun := fun c' _ hc' _ => by cases hc'; exact h.begun }

theorem inv_poll (s : St) (h : Inv s) : Inv (poll s) := by
  -- the arms that change the state: the atomic path with credit and room, the old path taking its credit, the old
  -- path going on
  fun_cases poll s
  case case2 c hc ha hroom => exact (h.take hc (h.atomicNone c hc ha) hroom.1).finish
  case case4 c hc ha hp hcr => exact (h.take hc hp hcr).push (Bool.eq_false_iff.mpr ha)
  case case6 c hc ha i hp => exact (h.taken hc hp).push (Bool.eq_false_iff.mpr ha)
  all_goals exact h

theorem harmful_cancel {s : St} {c : Cur} (hc : s.cur = some c) : harmful s .cancel = c.pushed.isSome := by
  obtain ⟨k, t, a, p⟩ := c
  simp only [harmful, hc]
  cases p <;> rfl

theorem inv_step (s : St) (e : Ev) (h : Inv s) (hh : harmful s e = false) : Inv (step s e) := by
  cases e with
  | start k len =>
    simp only [step]
    split
    · exact h
    next hc =>
    have hs := h.sent
    have ho := h.order
    simp only [hc, owed, pendingK, List.append_nil] at hs ho
    exact { h with
      sent := by simpa only [St.sent, owed, List.append_nil] using hs
      atomicNone := fun c' hc' _ => by cases hc'; rfl
      order := ho.append (List.Sublist.refl _)
      curBegun := fun c' i hc' hp => by cases hc'; cases hp }
  | poll => exact inv_poll s h
  | cancel =>
    have ho : owed s.cur = [] := by
      cases hc : s.cur with
      | none => rfl
      | some c =>
        rw [harmful_cancel hc] at hh
        rw [owed_some]
        split
        · rfl
        · next hp => simp [hp] at hh
    have hs := h.sent
    rw [ho, List.append_nil] at hs
    show Inv { s with cur := none }
    exact { h with
      sent := by simpa only [St.sent, owed, List.append_nil] using hs
      atomicNone := fun _ hc => nomatch hc
      order := by simpa only [pendingK, List.append_nil] using (List.sublist_append_left _ _).trans h.order
      curBegun := fun _ _ hc => nomatch hc }
  | grant n =>
    exact { h with
      credit := by
        show s.credit + n + s.dc = s.granted + n
        rw [Nat.add_right_comm, h.credit] }
  | drain n =>
    refine { h with sent := ?_ }
    have := h.sent
    simp only [step, St.sent, List.append_assoc] at this ⊢
    rw [← List.append_assoc (s.q.take n), List.take_append_drop]; exact this

theorem inv_run : ∀ (evs : List Ev) (s : St), Inv s → harmless s evs = true → Inv (run s evs)
  | [], _, h, _ => h
  | e :: es, s, h, hh => by
    simp only [harmless, Bool.and_eq_true, Bool.not_eq_true'] at hh
    exact inv_run es (step s e) (inv_step s e h hh.1) hh.2

/-- every send of the run fits the queue -/
def allFit (cap m : Nat) : List Ev → Bool
  | [] => true
  | .start _ len :: es => fits (transfers m len) cap && allFit cap m es
  | _ :: es => allFit cap m es

/-- the send in progress, if any, goes the reserve-then-commit way, so it has taken no credit -/
def CurAtomic (s : St) : Prop := ∀ c, s.cur = some c → c.atomic = true ∧ c.pushed = none

theorem pushSome_cur (s : St) (c : Cur) (i : Nat) : ∀ c', (pushSome s c i).cur = some c' → c'.atomic = c.atomic := by
  intro c' h
  simp only [pushSome] at h
  split at h <;> cases h
  rfl

theorem pushSome_params (s : St) (c : Cur) (i : Nat) :
    (pushSome s c i).cap = s.cap ∧ (pushSome s c i).maxMsg = s.maxMsg := by
  simp only [pushSome, apply_ite St.cap, apply_ite St.maxMsg, ite_self, and_self]

theorem poll_params (s : St) : (poll s).cap = s.cap ∧ (poll s).maxMsg = s.maxMsg := by
  fun_cases poll s
  case case4 => exact pushSome_params ..
  case case6 => exact pushSome_params ..
  all_goals exact ⟨rfl, rfl⟩

theorem step_params (s : St) (e : Ev) : (step s e).cap = s.cap ∧ (step s e).maxMsg = s.maxMsg := by
  fun_cases step s e
  case case3 => exact poll_params s
  all_goals exact ⟨rfl, rfl⟩

/-- one event of a run in which every send fits: the send in progress stays on the reserve-then-commit path, so
    a drop is not harmful -/
theorem fit_step (s : St) (e : Ev) (es : List Ev) (h : CurAtomic s) (hf : allFit s.cap s.maxMsg (e :: es) = true) :
    harmful s e = false ∧ CurAtomic (step s e) ∧ allFit (step s e).cap (step s e).maxMsg es = true := by
  rw [(step_params s e).1, (step_params s e).2]
  cases e with
  | start k len =>
    have ⟨hfit, hrest⟩ := (Bool.and_eq_true _ _).mp hf
    refine ⟨rfl, ?_, hrest⟩
    simp only [step]
    split
    · exact h
    · intro c' hc'; cases hc'; simp [source_send_is_atomic, hfit]
  | poll =>
    refine ⟨rfl, ?_, hf⟩
    simp only [step, poll]
    split
    · exact h
    next c hc =>
    -- the atomic path ends the send or leaves it as it was
    rw [if_pos (h c hc).1]
    exact iteInduction (fun _ => nofun) (fun _ => h)
  | cancel =>
    refine ⟨?_, nofun, hf⟩
    cases hc : s.cur with
    | none => simp [harmful, hc]
    | some c => rw [harmful_cancel hc, (h c hc).2]; rfl
  | grant n => exact ⟨rfl, h, hf⟩
  | drain n => exact ⟨rfl, h, hf⟩

theorem run_allFit : ∀ (evs : List Ev) (s : St), Inv s → CurAtomic s → allFit s.cap s.maxMsg evs = true →
    Inv (run s evs) ∧ CurAtomic (run s evs)
  | [], _, h, ha, _ => ⟨h, ha⟩
  | e :: es, s, h, ha, hf =>
    have ⟨hharm, ha', hf'⟩ := fit_step s e es ha hf
    run_allFit es _ (inv_step s e h hharm) ha' hf'

/-- C16 for `send`: whatever the calls, polls, drops, credit grants and the pace of the session engine, as long as
    each delivery fits the link-to-session queue, what has left the link is whole deliveries in the order of the
    calls, and a dropped send used up no credit -/
theorem send_cancel_safe (cap m : Nat) (evs : List Ev) (hf : allFit cap m evs = true) :
    let s := run (init cap m) evs
    s.sent = wholeOf s.begun ∧
    s.dc = s.begun.length ∧
    s.credit + s.begun.length = s.granted ∧
    List.Sublist (s.begun.map (·.1)) s.started ∧
    (∀ k ∈ s.done, k ∈ s.begun.map (·.1)) := by
  intro s
  obtain ⟨h, hat⟩ := run_allFit evs (init cap m) (inv_init cap m) nofun hf
  have hs := h.sent
  have hcur : owed s.cur = [] := by
    cases hc : s.cur with
    | none => rfl
    | some c => rw [owed_some, (hat c hc).2]
  rw [hcur, List.append_nil] at hs
  exact ⟨hs, h.dc, h.dc ▸ h.credit, (List.sublist_append_left _ _).trans h.order, h.doneBegun⟩

/-- at most once and in order: with the calls numbered upwards, so are the deliveries -/
theorem send_order (cap m : Nat) (evs : List Ev) (hf : allFit cap m evs = true)
    (hs : (run (init cap m) evs).started.Pairwise (· < ·)) :
    ((run (init cap m) evs).begun.map (·.1)).Pairwise (· < ·) :=
  List.Pairwise.sublist (send_cancel_safe cap m evs hf).2.2.2.1 hs

/-- the general statement, also for deliveries that do not fit: nothing is corrupted as long as
    no future is dropped between its credit and its last transfer -/
theorem send_safe_unless_cut (cap m : Nat) (evs : List Ev) (hh : harmless (init cap m) evs = true) :
    let s := run (init cap m) evs
    s.sent ++ owed s.cur = wholeOf s.begun ∧ s.dc = s.begun.length ∧ s.credit + s.begun.length = s.granted := by
  intro s
  have h : Inv s := inv_run evs _ (inv_init cap m) hh
  exact ⟨h.sent, h.dc, h.dc ▸ h.credit⟩

/-- later sends are not starved: a send that fits completes at the first poll at which a credit is there and
    the engine has made room -/
theorem send_completes (s : St) (c : Cur) (hc : s.cur = some c) (ha : c.atomic = true)
    (hcr : 1 ≤ s.credit) (hroom : s.q.length + c.t ≤ s.cap) :
    (poll s).cur = none ∧ c.k ∈ (poll s).done ∧ (poll s).sent = s.sent ++ frames c.k c.t := by
  unfold poll
  simp [hc, ha, hcr, hroom, St.sent]

theorem drain_makes_room (s : St) (c : Cur) (hfit : c.t ≤ s.cap) :
    (step s (.drain s.q.length)).q.length + c.t ≤ (step s (.drain s.q.length)).cap := by
  simp [step]; exact hfit

/-- the known residue: a delivery of more transfers than the queue holds is cut short by a drop -/
theorem oversize_cancel_cuts :
    let s := run (init 1 64) [.start 0 150, .grant 1, .poll, .cancel]
    s.sent = [⟨0, 0, 3⟩] ∧ isWhole s.sent = false ∧ s.dc = 1 := by decide

/-- … and the same calls with a queue that holds the delivery leave nothing behind -/
example : let s := run (init 4 64) [.start 0 150, .grant 1, .drain 0, .cancel, .start 1 10, .poll]
    s.sent = [⟨1, 0, 1⟩] ∧ s.dc = 1 ∧ s.credit = 0 := by decide

/-- non-vacuity: a run with a drop in the middle that satisfies the premises and delivers -/
example : allFit 2 64 [.start 0 100, .poll, .cancel, .grant 2, .start 1 100, .poll, .drain 2, .start 2 10, .poll] = true ∧
    (run (init 2 64) [.start 0 100, .poll, .cancel, .grant 2, .start 1 100, .poll, .drain 2, .start 2 10, .poll]).sent
      = [⟨1, 0, 2⟩, ⟨1, 1, 2⟩, ⟨2, 0, 1⟩] := by decide

structure RInv (s : RSt) : Prop where
  /-- everything that arrived is accounted for, in order, once -/
  account : s.account = s.arrived
  /-- the future holds no transfer across an await -/
  held : s.held = none
  /-- nothing went with a dropped future -/
  lost : s.lost = []
  /-- what was returned are whole deliveries -/
  whole : ∀ d ∈ s.returned, WholeD d
  /-- the delivery being put together has no last transfer yet -/
  partialOpen : ∀ g ∈ s.partialD, g.last = false

theorem rinv_init (auto : Bool) (cap : Nat) : RInv (rinit auto cap) := by
  constructor <;> simp [rinit, RSt.account]

/-- the transfer `recv_inner` looks at next might as well have stood at the head of the queue: the parked one is
    accounted for right before it -/
theorem rtake_spec {s : RSt} (h : RInv s) {f : Fr} {s1 : RSt} (ht : rtake s = some (f, s1)) :
    RInv { s1 with incoming := f :: s1.incoming } ∧ s1.parked = none := by
  have hacc := h.account
  unfold rtake at ht
  cases hp : s.parked with
  | some g =>
    simp only [hp] at ht
    cases ht
    exact ⟨{ h with account := by simpa [RSt.account, hp, h.held] using hacc }, rfl⟩
  | none =>
    simp only [hp, h.held] at ht
    cases hi : s.incoming with
    | nil => simp only [hi] at ht; cases ht
    | cons g rest =>
      simp only [hi] at ht
      cases ht
      exact ⟨⟨by simpa [RSt.account, hp, h.held, hi] using hacc, rfl, h.lost, h.whole, h.partialOpen⟩, rfl⟩

theorem rfinish_inv {f : Fr} {s1 : RSt} (h : RInv { s1 with incoming := f :: s1.incoming }) (hp : s1.parked = none)
    (hl : f.last = true) : RInv (rfinish true f s1) := by
  have hh : s1.held = none := h.held
  have hacc : s1.returned.flatten ++ (s1.partialD ++ f :: s1.incoming) = s1.arrived := by
    simpa [RSt.account, hp, hh] using h.account
  have hcomplete : RInv { s1 with returned := s1.returned ++ [s1.partialD ++ [f]], partialD := [] } :=
    { h with
      account := by simpa [RSt.account, hp, hh] using hacc
      whole := fun d hd => (List.mem_append.mp hd).elim (h.whole d)
        (fun hd => List.mem_singleton.mp hd ▸ ⟨s1.partialD, f, rfl, hl, h.partialOpen⟩)
      partialOpen := nofun }
  refine iteInduction (fun _ => iteInduction (fun _ => { hcomplete with }) fun _ => ?_) (fun _ => hcomplete)
  exact { h with account := by simpa [RSt.account, hh] using hacc }

theorem rpoll_inv : ∀ (fuel : Nat) (s : RSt), RInv s → RInv (rpoll true fuel s)
  | 0, _, h => h
  | fuel + 1, s, h => by
    unfold rpoll
    split
    · exact h
    next f s1 ht =>
    obtain ⟨h1, hp⟩ := rtake_spec h ht
    split
    · next hl => exact rfinish_inv h1 hp hl
    · next hl =>
      have hh : s1.held = none := h1.held
      exact rpoll_inv fuel _ { h1 with
        account := by simpa [RSt.account, hp, hh] using h1.account
        partialOpen := fun g hg => (List.mem_append.mp hg).elim (h1.partialOpen g)
          (fun hg => by rw [List.mem_singleton.mp hg]; simpa using hl) }

theorem rinv_step (s : RSt) (e : REv) (h : RInv s) : RInv (rstep true s e) := by
  cases e with
  | arrive f =>
    exact { h with
      account := by
        show _ ++ (s.incoming ++ [f]) = s.arrived ++ [f]
        rw [← List.append_assoc, ← h.account]; rfl }
  | poll => exact rpoll_inv _ s h
  | cancel =>
    have hh := h.held
    exact { h with
      account := by simpa only [rstep, RSt.account, hh] using h.account
      held := rfl
      lost := by
        show s.lost ++ s.held.toList = []
        rw [h.lost, hh]; rfl }
  | outDrain n => exact { h with }
  | outFill n => exact { h with }

theorem rinv_run : ∀ (evs : List REv) (s : RSt), RInv s → RInv (rrun true s evs)
  | [], _, h => h
  | e :: es, s, h => rinv_run es _ (rinv_step s e h)

/-- C16 for `recv`: whatever the arrivals, polls and drops, and however full the link-to-session queue is, every
    transfer that arrived is, in order and once, in a returned delivery, in the delivery being put together, in
    the parked slot or in the queue; and returned deliveries are whole -/
theorem recv_cancel_safe (auto : Bool) (cap : Nat) (evs : List REv) :
    let s := rrun recvParks (rinit auto cap) evs
    s.returned.flatten ++ s.partialD ++ s.parked.toList ++ s.incoming = s.arrived ∧
    s.lost = [] ∧ ∀ d ∈ s.returned, WholeD d := by
  intro s
  have h : RInv s := by
    show RInv (rrun recvParks (rinit auto cap) evs)
    rw [source_recv_parks]; exact rinv_run evs _ (rinv_init auto cap)
  refine ⟨?_, h.lost, h.whole⟩
  simpa [RSt.account, h.held] using h.account

theorem frames_whole (k : Nat) {t : Nat} (ht : 0 < t) : WholeD (frames k t) := by
  obtain ⟨n, rfl⟩ : ∃ n, t = n + 1 := ⟨t - 1, by omega⟩
  refine ⟨(List.range n).map (fun i => ⟨k, i, n + 1⟩), ⟨k, n, n + 1⟩, by simp [frames, List.range_succ], by simp [Fr.last], ?_⟩
  intro g hg
  obtain ⟨i, hi, rfl⟩ := List.mem_map.mp hg
  have := List.mem_range.mp hi
  simp [Fr.last]; omega

/-- the first last transfer ends the delivery -/
theorem WholeD.unique {d d' r r' : List Fr} (hd : WholeD d) (hd' : WholeD d') (h : d ++ r = d' ++ r') :
    d = d' ∧ r = r' := by
  obtain ⟨a, x, rfl, hx, ha⟩ := hd
  obtain ⟨b, y, rfl, hy, hb⟩ := hd'
  -- on either side the body is what stands before the first last transfer
  have hab := congrArg (List.takeWhile (!·.last)) h
  rw [List.append_assoc, List.append_assoc, List.takeWhile_append_of_pos (l₁ := a) (by simpa using ha),
    List.takeWhile_append_of_pos (l₁ := b) (by simpa using hb)] at hab
  simp [hx, hy] at hab
  subst hab
  simpa using h

theorem returned_are_messages : ∀ (ds : List (List Fr)) (rest : List Fr) (msgs : List (Nat × Nat)),
    (∀ m ∈ msgs, 0 < m.2) → (∀ d ∈ ds, WholeD d) → ds.flatten ++ rest = wholeOf msgs →
    ds = (msgs.take ds.length).map (fun m => frames m.1 m.2)
  | [], _, _, _, _, _ => rfl
  | d :: ds, rest, [], _, hw, h => by
    obtain ⟨body, f, rfl, _, _⟩ := hw d List.mem_cons_self
    simp [wholeOf] at h
  | d :: ds, rest, m :: ms, hpos, hw, h => by
    rw [List.flatten_cons, List.append_assoc] at h
    obtain ⟨h1, h2⟩ := (hw d List.mem_cons_self).unique (frames_whole m.1 (hpos m List.mem_cons_self)) h
    have := returned_are_messages ds rest ms (fun x hx => hpos x (List.mem_cons_of_mem _ hx))
      (fun x hx => hw x (List.mem_cons_of_mem _ hx)) h2
    rw [List.length_cons, List.take_succ_cons, List.map_cons, ← this, h1]

/-- the deliveries returned by the recv calls that complete are exactly the messages sent, in order, when what
    arrived is a stream of whole messages -/
theorem recv_returns_messages (auto : Bool) (cap : Nat) (evs : List REv) (msgs : List (Nat × Nat))
    (hpos : ∀ m ∈ msgs, 0 < m.2) (harr : (rrun recvParks (rinit auto cap) evs).arrived = wholeOf msgs) :
    let s := rrun recvParks (rinit auto cap) evs
    s.returned = (msgs.take s.returned.length).map (fun m => frames m.1 m.2) := by
  intro s
  obtain ⟨hacc, _, hw⟩ := recv_cancel_safe auto cap evs
  have : s.returned.flatten ++ (s.partialD ++ s.parked.toList ++ s.incoming) = wholeOf msgs := by
    rw [← harr, ← hacc]; simp [s]
  exact returned_are_messages s.returned _ msgs hpos hw this

/-- nothing stays parked for good: with room in the queue the next poll returns the delivery -/
theorem parked_is_returned (s : RSt) (f : Fr) (hp : s.parked = some f) (hl : f.last = true) (ha : s.auto = true)
    (hroom : s.outLen + need s.outCap ≤ s.outCap) (fuel : Nat) :
    (rpoll true (fuel + 1) s).returned = s.returned ++ [s.partialD ++ [f]] ∧ (rpoll true (fuel + 1) s).parked = none := by
  simp [rpoll, rtake, hp, hl, rfinish, ha, hroom]

theorem need_le_cap (cap : Nat) : need cap ≤ cap := Nat.min_le_left _ _

/-- `parks = false`: a `recv_inner` that holds the transfer in a local across the await for room instead of in
    `self.parked_transfer`; a future dropped there takes the transfer along -/
theorem unparked_recv_loses :
    let s := rrun false (rinit true 1) [.outFill 1, .arrive ⟨0, 0, 1⟩, .poll, .cancel, .outDrain 1, .arrive ⟨1, 0, 1⟩, .poll]
    s.returned = [[⟨1, 0, 1⟩]] ∧ s.lost = [⟨0, 0, 1⟩] := by decide

example :
    let s := rrun recvParks (rinit true 1) [.outFill 1, .arrive ⟨0, 0, 1⟩, .poll, .cancel, .outDrain 1, .arrive ⟨1, 0, 1⟩, .poll, .outDrain 1, .poll]
    s.returned = [[⟨0, 0, 1⟩], [⟨1, 0, 1⟩]] ∧ s.lost = [] := by rw [source_recv_parks]; decide

end Amqp.Cancel
