/-
  Values as Boolean functions, next to the codec: `Value.beq` decides equality, and `wfB v = true`
  implies `WF v` (`wfB_sound`), so that a concrete value is shown well-formed by evaluation; the small
  equations of `enc`, `WFAll` and the size functions that the layers above the codec use.  The names
  are in `Amqp.Typed`, where the typed layer first needed them.
-/
import Theorems.Lemmas.Codec

namespace Amqp.Typed
open Amqp.Codec Amqp.Gen.Codes

mutual
  theorem beq_iff : ∀ (a b : Value), Value.beq a b = true ↔ a = b
    | .null, b => by cases b <;> simp [Value.beq]
    | .bool x, b => by cases b <;> simp [Value.beq]
    | .fixed k x, b => by cases b <;> simp [Value.beq]
    | .var k x, b => by cases b <;> simp [Value.beq]
    | .list x, b => by cases b <;> simp [Value.beq, beqList_iff x]
    | .map x, b => by cases b <;> simp [Value.beq, beqList_iff x]
    | .array x, b => by cases b <;> simp [Value.beq, beqList_iff x]
    | .described d v, b => by cases b <;> simp [Value.beq, beq_iff d, beq_iff v]
  theorem beqList_iff : ∀ (a b : List Value), Value.beqList a b = true ↔ a = b
    | [], b => by cases b <;> simp [Value.beqList]
    | x :: xs, b => by cases b <;> simp [Value.beqList, beq_iff x, beqList_iff xs]
end

theorem beq_eq (a b : Value) (h : Value.beq a b = true) : a = b :=
  (beq_iff a b).mp h

theorem beqList_refl : ∀ (a : List Value), Value.beqList a a = true :=
  fun a => (beqList_iff a a).mpr rfl

instance instDecidableEqValue_theorems : DecidableEq Value := fun a b => decidable_of_iff _ (beq_iff a b)

theorem enc_null : enc .none .null = some [b8 cNull] := by simp [enc]

theorem encAll_cons (v : Value) (vs : List Value) :
    encAll (v :: vs) = (enc .none v).bind fun a => (encAll vs).bind fun b => some (a ++ b) := rfl

theorem sizeAll_cons (v : Value) (vs : List Value) (n : Nat) (h : sizeAll (v :: vs) = some n) :
    ∃ a m, size .none v = some a ∧ sizeAll vs = some m ∧ n = a + m := by
  simp only [sizeAll, bind, Option.bind_eq_some_iff, Option.some.injEq] at h
  obtain ⟨a, ha, m, hm, rfl⟩ := h
  exact ⟨a, m, ha, hm, rfl⟩

theorem sizeList_some (ctx : Ctx) (n s : Nat) (h : sizeList ctx n = some s) :
    n = 0 ∧ s = 1 ∨ n ≠ 0 ∧ (n ≤ 254 ∧ s = (if ctx.writesCode then 1 else 0) + 2 + n ∨
      254 < n ∧ s = (if ctx.writesCode then 1 else 0) + 8 + n) := by
  revert h
  fun_cases sizeList ctx n with
  | case1 h0 => exact fun h => .inl ⟨h0, (Option.some.inj h).symm⟩
  | case2 h0 h1 => exact fun h => .inr ⟨h0, .inl ⟨h1, (Option.some.inj h).symm⟩⟩
  | case3 h0 h1 => exact fun h => .inr ⟨h0, .inr ⟨Nat.lt_of_not_le h1, (Option.some.inj h).symm⟩⟩
  | case4 => exact nofun

theorem sizeList_mono (ctx : Ctx) (n n' s s' : Nat) (h : n ≤ n')
    (h1 : sizeList ctx n = some s) (h2 : sizeList ctx n' = some s') : s ≤ s' := by
  have := sizeList_some ctx n s h1
  have := sizeList_some ctx n' s' h2
  omega

theorem WFAll_append (a b : List Value) : WFAll (a ++ b) ↔ WFAll a ∧ WFAll b := by
  simp only [WFAll_iff, List.forall_mem_append]

theorem WFAll_nulls (k : Nat) : WFAll (List.replicate k .null) :=
  (WFAll_iff _).mpr fun _ h => (List.mem_replicate.mp h).2 ▸ trivial

mutual
  theorem WF_Widths : ∀ (v : Value), WF v → Widths v
    | .null, _ => trivial
    | .bool _, _ => trivial
    | .fixed _ _, h => h.1
    | .var _ _, _ => trivial
    | .list vs, h => WFAll_WidthsAll vs h.1
    | .map vs, h => WFAll_WidthsAll vs h.1
    | .array vs, h => WFAll_WidthsAll vs h.1
    | .described d v, h => ⟨WF_Widths d h.2.1, WF_Widths v h.2.2⟩
  theorem WFAll_WidthsAll : ∀ (vs : List Value), WFAll vs → WidthsAll vs
    | [], _ => trivial
    | v :: vs, h => ⟨WF_Widths v h.1, WFAll_WidthsAll vs h.2⟩
end

def sameSimpleB : List Value → Bool
  | [] => true
  | [v] => (elemCode v).isSome
  | v :: w :: vs => (elemCode v).isSome && elemCode v == elemCode w && sameSimpleB (w :: vs)

theorem sameSimpleB_sound (vs : List Value) (h : sameSimpleB vs = true) : SameSimple vs := by
  fun_induction sameSimpleB vs with
  | case1 => trivial
  | case2 v => exact h
  | case3 v w vs ih =>
    simp only [Bool.and_eq_true, beq_iff_eq] at h
    exact ⟨h.1.1, h.1.2, ih h.2⟩

def isDescriptorValue : Value → Bool
  | .var .symbol _ => true
  | .fixed .ulong _ => true
  | _ => false

mutual
  def wfB : Value → Bool
    | .null => true
    | .bool _ => true
    | .fixed k bs => bs.length == k.width && (k != .char || validChar bs)
    | .var k bs => (k == .binary || validUtf8 bs) && decide (bs.length < 4294967296)
    | .list vs => wfAllB vs && decide (vs.length ≤ MAX_ARRAY_COUNT)
    | .map kvs => wfAllB kvs && kvs.length % 2 == 0 && decide (kvs.length ≤ MAX_ARRAY_COUNT) &&
        Value.beqList (flattenPairs (insertAll [] kvs)) kvs
    | .array vs => wfAllB vs && decide (vs.length ≤ MAX_ARRAY_COUNT) && sameSimpleB vs
    | .described d v => isDescriptorValue d && wfB d && wfB v
  def wfAllB : List Value → Bool
    | [] => true
    | v :: vs => wfB v && wfAllB vs
end

mutual
  theorem wfB_sound : ∀ (v : Value), wfB v = true → WF v
    | .null, _ => trivial
    | .bool _, _ => trivial
    | .fixed k bs, h => by
      simp only [wfB, Bool.and_eq_true, beq_iff_eq, Bool.or_eq_true, bne_iff_ne, ne_eq] at h
      exact ⟨h.1, fun hk => h.2.resolve_left fun hn => hn hk⟩
    | .var k bs, h => by
      simp only [wfB, Bool.and_eq_true, Bool.or_eq_true, beq_iff_eq, decide_eq_true_eq] at h
      exact ⟨fun hk => h.1.resolve_left hk, h.2⟩
    | .list vs, h => by
      simp only [wfB, Bool.and_eq_true, decide_eq_true_eq] at h
      exact ⟨wfAllB_sound vs h.1, h.2⟩
    | .map kvs, h => by
      simp only [wfB, Bool.and_eq_true, decide_eq_true_eq, beq_iff_eq] at h
      exact ⟨wfAllB_sound kvs h.1.1.1, h.1.1.2, h.1.2, (beqList_iff _ _).mp h.2⟩
    | .array vs, h => by
      simp only [wfB, Bool.and_eq_true, decide_eq_true_eq] at h
      exact ⟨wfAllB_sound vs h.1.1, h.1.2, sameSimpleB_sound vs h.2⟩
    | .described d v, h => by
      simp only [wfB, Bool.and_eq_true] at h
      refine ⟨?_, wfB_sound d h.1.2, wfB_sound v h.2⟩
      have hd := h.1.1
      unfold isDescriptorValue at hd
      split at hd
      · exact Or.inl ⟨_, rfl⟩
      · exact Or.inr ⟨_, rfl⟩
      · cases hd
  theorem wfAllB_sound : ∀ (vs : List Value), wfAllB vs = true → WFAll vs
    | [], _ => trivial
    | v :: vs, h => by
      simp only [wfAllB, Bool.and_eq_true] at h
      exact ⟨wfB_sound v h.1, wfAllB_sound vs h.2⟩
end

end Amqp.Typed
