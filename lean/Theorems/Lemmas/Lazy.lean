/-
  Helper lemmas for `Amqp.Lazy`: the byte scanner cuts off exactly the encoding of a value.
-/
import Theorems.Lemmas.Codec
import Amqp.Lazy

namespace Amqp.Lazy
open Amqp.Codec Amqp.Gen.Codes

/-- `c` is a constructor the scanner knows, of category `(k, w)` -/
abbrev Cat (c k w : Nat) : Prop := isCode (b8 c).toNat = true ∧ categoryOf (b8 c).toNat = some (k, w)

/-- from `e` followed by anything the scanner cuts off exactly `e` -/
def Cuts (e : Bytes) : Prop := ∀ tail, skim1 (e ++ tail) = .ok (e, tail)

theorem skim1_fixed {c : Nat} {body : Bytes} (hc : Cat c 0 body.length) : Cuts (b8 c :: body) := by
  intro tail
  simp only [skim1, List.cons_append, hc.1, hc.2, Bool.not_true, Bool.false_eq_true, if_false]
  exact take?_append _ (b8 c :: body) tail rfl

theorem skim1_sized {c k : Nat} {sb rest : Bytes} (hc : Cat c (k + 1) sb.length)
    (hl : fromBe sb = rest.length) : Cuts (b8 c :: sb ++ rest) := by
  intro tail
  simp only [skim1, List.cons_append, List.append_assoc, hc.1, hc.2, Bool.not_true, Bool.false_eq_true, if_false]
  have h1 := take?_append (sb.length + 1) (b8 c :: sb) (rest ++ tail) rfl
  simp only [List.cons_append] at h1
  rw [h1]
  simp only [List.drop_succ_cons, List.drop_zero, hl]
  have h2 := take?_append (1 + sb.length + rest.length) (b8 c :: sb ++ rest) tail (by simp; omega)
  simpa [List.append_assoc] using h2

theorem isCode_of (n : Nat) (h : discriminants.contains n = true) : isCode n = true := h

theorem fixed_cat (k : FixedKind) : Cat k.code 0 k.width := by
  cases k <;> decide

theorem compact_cat {k : FixedKind} {bs r : Bytes} {c : Nat} (h : Compact k bs c r) : Cat c 0 r.length := by
  cases h <;> exact ⟨rfl, rfl⟩

theorem encFixed_cuts (k : FixedKind) (bs : Bytes) (hw : bs.length = k.width) : Cuts (encFixed .none k bs) := by
  unfold encFixed
  cases hs : smallForm k bs with
  | none => exact skim1_fixed (hw ▸ fixed_cat k)
  | some s =>
    obtain ⟨c, r, rfl, hc⟩ := smallForm_compact hs
    exact skim1_fixed (compact_cat hc)

theorem var_cat (k : VarKind) (w : Bool) : Cat (if w then k.code32 else k.code8) 1 (if w then 4 else 1) := by
  cases k <;> cases w <;> decide

/-- the scanner reads the size field only: it counts the count field and the body -/
theorem writeHdr_cuts {c8 c32 o8 o32 k num : Nat} {buf e : Bytes}
    (h : writeHdr c8 c32 o8 o32 .none num buf = some e) (hn : num ≤ buf.length)
    (hc : ∀ w : Bool, Cat (if w then c32 else c8) (k + 1) (if w then 4 else 1) ∧
      (if w then o32 else o8) = if w then 4 else 1) : Cuts e := by
  have ho : o8 ≤ 1 ∧ o32 ≤ 4 := ⟨Nat.le_of_eq (hc false).2, Nat.le_of_eq (hc true).2⟩
  obtain ⟨w, lb, nb, rfl, hl, hnb, -⟩ := writeHdr_shape h ho hn
  refine skim1_sized (rest := nb ++ buf) (hl.1 ▸ (hc w).1) ?_
  rw [hl.2, (hc w).2, List.length_append, hnb]
  exact Nat.add_comm _ _

def notDescribed : Value → Bool
  | .described _ _ => false
  | _ => true

/-- what `LazyValue` takes: any value that is not described, or a described value whose descriptor and
    value are not themselves described (`read_described_bytes` refuses those) -/
def lazyOk : Value → Bool
  | .described d x => notDescribed d && notDescribed x
  | _ => true

theorem enc_cuts (v : Value) (hw : WF v) (hn : notDescribed v = true) (e : Bytes)
    (he : enc .none v = some e) : Cuts e := by
  cases v with
  | null => cases he; exact skim1_fixed (c := cNull) (body := []) (by decide)
  | bool b => cases he; exact skim1_fixed (body := []) (by cases b <;> decide)
  | fixed k bs => cases he; exact encFixed_cuts k bs hw.1
  | var k bs =>
    obtain ⟨w, lb, rfl, hl⟩ := encVar_shape he
    exact skim1_sized (hl.1 ▸ var_cat k w) hl.2
  | list vs =>
    obtain ⟨buf, hb, he⟩ := enc_list_some.1 he
    rw [writeList_eq] at he
    split at he
    · cases he
      exact skim1_fixed (c := cList0) (body := []) (by decide)
    · exact writeHdr_cuts (k := 1) he (encAll_len vs hw.1 buf hb) (by decide)
  | map vs =>
    obtain ⟨buf, hb, he⟩ := enc_map_some.1 he
    exact writeHdr_cuts (k := 1) (writeMap_eq ▸ he) (encAll_len vs hw.1 buf hb) (by decide)
  | array vs =>
    obtain ⟨buf, hb, he⟩ := enc_array_some.1 he
    exact writeHdr_cuts (k := 2) (writeArray_eq ▸ he) (encElems_len true vs hw.1 buf hb) (by decide)
  | described d x => cases hn

end Amqp.Lazy
