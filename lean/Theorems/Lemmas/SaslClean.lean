/-
  The listener's loop and the client's step written out by hand, and the proof that the models —
  which take their decisions from the tables generated out of the source (`Amqp.Gen.Sasl`) — are
  these functions; a change of a table breaks the equalities here.
-/
import Amqp.Sasl

namespace Amqp.Sasl
open Amqp.Frame (Bytes)
open Amqp.Gen.Sasl (FrameKind OnCode listener_on_code listener_on_frame client_on_code client_on_frame)
open Amqp.Gen.SaslK

theorem listener_proceeds_iff (c : Code) : listener_on_code c = .proceeds ↔ c = .ok := by
  cases c <;> simp [listener_on_code]

theorem client_proceeds_iff (c : Code) : client_on_code c = .proceeds ↔ c = .ok := by
  cases c <;> simp [client_on_code]

theorem credentials_compared (user pass authcid passwd : Bytes) :
    validate_credential.cond_if_0 authcid passwd pass user = true ↔ user = authcid ∧ pass = passwd := by
  simp [validate_credential.cond_if_0]

theorem listenAsk_eq {σ : Type} (acc : Acceptor σ) (s : σ) (f : ClientFrame) :
    listenAsk acc s f = match f with
      | .init m r => some (acc.onInit s m r)
      | .response r => some (acc.onResponse s r)
      | .other _ => none := by
  cases f with
  | other k => cases k <;> rfl
  | _ => rfl

def listenLoop' {σ : Type} (acc : Acceptor σ) : σ → List In → List ServerFrame × Verdict
  | _, [] => ([], .failedIo)
  | _, .eof :: _ => ([], .failedIo)
  | _, .bad :: _ => ([], .failedIo)
  | _, .frame (.other _) :: _ => ([.outcome .sys none], .failedCode .sys)
  | s, .frame (.init m r) :: rest =>
    match acc.onInit s m r with
    | (s', .challenge c) => let (out, v) := listenLoop' acc s' rest; (.challenge c :: out, v)
    | (_, .outcome .ok x) => ([.outcome .ok x], .passed)
    | (_, .outcome code x) => ([.outcome code x], .failedCode code)
  | s, .frame (.response r) :: rest =>
    match acc.onResponse s r with
    | (s', .challenge c) => let (out, v) := listenLoop' acc s' rest; (.challenge c :: out, v)
    | (_, .outcome .ok x) => ([.outcome .ok x], .passed)
    | (_, .outcome code x) => ([.outcome code x], .failedCode code)

theorem listenLoop_eq {σ : Type} (acc : Acceptor σ) : ∀ (ins : List In) (s : σ), listenLoop acc s ins = listenLoop' acc s ins := by
  intro ins s
  fun_induction listenLoop' acc s ins
  -- the two arms for a code other than `ok`: the generated table fails on each of them
  case case7 code _ hc h | case10 code _ hc h =>
    simp only [listenLoop, listenAsk_eq, h]
    cases code
    case ok => exact absurd rfl hc
    all_goals rfl
  all_goals simp only [listenLoop, listenAsk_eq, listener_on_code, *]

def scramCliStep' (cr : Crypto) (mech user password : Bytes) (s : CliState) (nonces : List Bytes) : SrvIn → CliStepRes
  | .eof => .done .error
  | .bad => .done .error
  | .frame (.other _) => .done .error
  | .frame (.mechanisms ms) =>
    if ms.contains mech then
      let nonce := nonces.headD []
      .cont (.firstSent nonce (clientFirst user nonce).2) nonces.tail (.init mech (some (clientFirst user nonce).1))
    else .done .error
  | .frame (.challenge c) =>
    if !validUtf8 c then .done .error else
    match s with
    | .firstSent nonce bare =>
      match clientFinal cr nonce password c bare with
      | none => .done .error
      | some (final, sig) => .cont (.finalSent sig) nonces (.response final)
    | _ => .done .error
  | .frame (.outcome code extra) =>
    match code with
    | .ok =>
      match extra, s with
      | some sf, .finalSent sig => if validServerFinal sf sig then .done .authenticated else .done .error
      | _, _ => .done .error
    | c => .done (.refused c)

theorem scramCliStep_eq (cr : Crypto) (mech user password : Bytes) (s : CliState) (nonces : List Bytes) (i : SrvIn) :
    scramCliStep cr mech user password s nonces i = scramCliStep' cr mech user password s nonces i := by
  cases i with
  | eof => rfl
  | bad => rfl
  | frame f =>
    cases f with
    | other k => cases k <;> rfl
    | mechanisms ms => rfl
    | challenge c => rfl
    | outcome code extra =>
      cases code with
      | ok =>
        cases extra with
        | none => rfl
        | some sf =>
          cases s with
          | finalSent sig =>
            show (if (true && !validServerFinal sf sig) = true then _ else _) = if validServerFinal sf sig = true then _ else _
            cases validServerFinal sf sig <;> rfl
          | _ => rfl
      | _ => rfl

end Amqp.Sasl
