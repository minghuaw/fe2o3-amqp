/-
  Sender link credit (C08): the window invariant `CInv` of the credit arithmetic and the invariant `NInv` of
  the wait protocol between a blocked send and the session task.
-/
import Amqp.Credit
import Theorems.Lemmas.U32

namespace Amqp.Credit
open Amqp Amqp.Gen.Credit

/-- the delivery limit the receiver last stated: deliveries `[base, base+len)` -/
structure Lim where
  base : Nat
  len : Nat

def limAfter (s : SSt) (l : Lim) : Op → Lim
  | .flow f => match f.credit with
    | some c => ⟨f.dc.getD s.initDc, c⟩
    | none => l
  | .send => l

def Op.WF : Op → Prop
  | .flow f => (∀ n, f.dc = some n → n < 4294967296) ∧ (∀ c, f.credit = some c → c < 4294967296)
  | .send => True

/-- the credit left never reaches beyond the limit the receiver last stated -/
structure CInv (s : SSt) (l : Lim) : Prop where
  len_lt : l.len < 4294967296
  fits : s.lc = 0 ∨ sdist l.base s.dc + s.lc ≤ l.len

def sentTags : List Out → List Nat
  | [] => []
  | .sent t :: os => t :: sentTags os
  | _ :: os => sentTags os

theorem sentTags_append (a b : List Out) : sentTags (a ++ b) = sentTags a ++ sentTags b := by
  induction a with
  | nil => rfl
  | cons o os ih => cases o <;> simp [sentTags, ih]

theorem consume_eq (s : SSt) (n : Nat) :
    consume s n = if s.lc < n then none
      else some ({ s with dc := wadd32 s.dc n, lc := s.lc - n }, s.dc) := by
  simp only [consume, consume_link_credit.cond_if_0, decide_eq_true_eq]
  rfl

theorem step_send (s : SSt) :
    step s .send = if s.lc < 1 then (s, [.blocked])
      else ({ s with dc := wadd32 s.dc 1, lc := s.lc - 1 }, [.sent s.dc]) := by
  rw [step, consume_eq]
  by_cases h : s.lc < 1 <;> simp only [h, if_true, if_false]

theorem step_flow (s : SSt) (f : LFlow) :
    (step s (.flow f)).1 = (onFlow s f).1 ∧ sentTags (step s (.flow f)).2 = [] := by
  simp only [step]
  cases h : onFlow s f with
  | mk s' e => cases e <;> exact ⟨rfl, rfl⟩

theorem grant_fields (s : SSt) (f : LFlow) :
    (grant s f).dc = s.dc ∧ (grant s f).initDc = s.initDc ∧ (grant s f).drain = s.drain := by
  unfold grant; split <;> exact ⟨rfl, rfl, rfl⟩

theorem onFlow_fst (s : SSt) (f : LFlow) :
    (onFlow s f).1 =
      if f.drain then { grant s f with dc := wadd32 s.dc (grant s f).lc, lc := 0, drain := true }
      else { grant s f with drain := false } := by
  unfold onFlow
  cases hd : f.drain
  · rfl
  · simp only [sender_on_incoming_flow.cond_if_0, if_true, drained, (grant_fields s f).1]
    rfl

theorem grant_inv (s : SSt) (l : Lim) (f : LFlow) (h : CInv s l) (hwf : (Op.flow f).WF) :
    CInv (grant s f) (limAfter s l (.flow f)) := by
  cases hcq : f.credit with
  | none => simpa only [grant, limAfter, hcq] using h
  | some c =>
    simp only [grant, limAfter, hcq]
    exact ⟨hwf.2 c hcq, window_rest _ _⟩

theorem step_inv (s : SSt) (l : Lim) (op : Op) (h : CInv s l) (hwf : op.WF) :
    CInv (step s op).1 (limAfter s l op) ∧
      ∀ t ∈ sentTags (step s op).2, inWindow (limAfter s l op).base (limAfter s l op).len t := by
  cases op with
  | send =>
    obtain ⟨hlen, hfit⟩ := h
    rw [step_send]
    split
    · exact ⟨⟨hlen, hfit⟩, fun _ ht => nomatch ht⟩
    · -- the tag is the count before the step, which the credit left puts inside the window
      have hpos : 0 < s.lc := Nat.not_lt.mp ‹_›
      obtain ⟨hin, hk⟩ := window_step hlen hpos (hfit.resolve_left (Nat.ne_of_gt hpos))
      exact ⟨⟨hlen, Or.inr hk⟩, fun t ht => List.mem_singleton.mp ht ▸ hin⟩
  | flow f =>
    obtain ⟨hl, hfit⟩ := grant_inv s l f h hwf
    obtain ⟨e1, e2⟩ := step_flow s f
    rw [e1, e2, onFlow_fst]
    refine ⟨?_, fun _ ht => nomatch ht⟩
    split
    · exact ⟨hl, Or.inl rfl⟩
    · exact ⟨hl, hfit⟩

/-- invariant of the wait protocol when the `Notified` future is created before the check -/
def NInv (s : NSt) : Prop :=
  match s.pc with
  | .start => True
  | .snapped n => n ≤ s.calls
  | .failed => False
  | .parked n => n ≤ s.calls ∧ (s.need ≤ s.credit → s.calls > n ∨ s.pending = true)
  | .done => True

theorem nStep_inv (s : NSt) (a : Act) (h : NInv s) : NInv (nStep true s a) := by
  -- on the state taken apart the step and the invariant compute, case by case
  obtain ⟨credit, need, calls, pending, pc⟩ := s
  cases a with
  | cStep =>
    cases pc with
    | start => exact Nat.le_refl calls
    | snapped n =>
      simp only [nStep, cStep]
      split
      · trivial
      · exact ⟨h, fun hc => absurd hc ‹_›⟩
    | failed => exact h.elim
    | parked n =>
      simp only [nStep, cStep]
      split
      · trivial
      · exact h
    | done => trivial
  | pUpdate c =>
    cases pending
    · cases pc with
      | start => trivial
      | snapped n => exact h
      | failed => exact h
      | parked n => exact ⟨h.1, fun _ => Or.inr rfl⟩
      | done => trivial
    · exact h
  | pNotify =>
    cases pending
    · exact h
    · cases pc with
      | start => trivial
      | snapped n => exact Nat.le_succ_of_le h
      | failed => exact h
      | parked n => exact ⟨Nat.le_succ_of_le h.1, fun _ => Or.inl (Nat.lt_succ_of_le h.1)⟩
      | done => trivial

theorem NInv.parked_wakes {s : NSt} (h : NInv s) {n : Nat} (hp : s.pc = .parked n) (hc : s.need ≤ s.credit)
    (hpend : s.pending = false) : s.calls > n := by
  unfold NInv at h
  rw [hp] at h
  exact (h.2 hc).resolve_right (by rw [hpend]; exact Bool.false_ne_true)

theorem nInit_inv (credit need : Nat) : NInv (nInit credit need) := trivial

theorem nRun_inv (as : List Act) (s : NSt) (h : NInv s) : NInv (nRun true s as) := by
  fun_induction nRun true s as with
  | case1 => exact h
  | case2 s a as ih => exact ih (nStep_inv s a h)

end Amqp.Credit
