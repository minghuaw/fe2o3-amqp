/-
  The slab behind our handles and channels (`Amqp.Handles.Slab`, the `slab` crate as the engines use it):
  its vacated keys followed by its live keys (`slots`) are distinct numbers below `len` (`Below`), and
  `insert` / `try_remove` permute that list or put `len` in front.
-/
import Amqp.Handles
import Theorems.Lemmas.List

namespace Amqp.Handles

/-- `live` and `free` hold distinct keys, all below `len` -/
structure SlabInv (s : Slab) : Prop where
  liveNodup : (s.live.map (·.1)).Nodup
  freeNodup : s.free.Nodup
  disjoint : ∀ k ∈ s.free, k ∉ s.live.map (·.1)
  liveLt : ∀ k ∈ s.live.map (·.1), k < s.len
  freeLt : ∀ k ∈ s.free, k < s.len

theorem Slab.vacantKey_cases (s : Slab) : (s.free = [] ∧ s.vacantKey = s.len) ∨ s.vacantKey ∈ s.free := by
  unfold Slab.vacantKey
  cases s.free with
  | nil => exact .inl ⟨rfl, rfl⟩
  | cons k rest => exact .inr List.mem_cons_self

theorem Slab.insert_snd (s : Slab) (v : String) : (s.insert v).2 = s.vacantKey := by
  unfold Slab.insert Slab.vacantKey; cases s.free <;> rfl

theorem Slab.insert_live (s : Slab) (v : String) : (s.insert v).1.live = (s.vacantKey, v) :: s.live := by
  unfold Slab.insert Slab.vacantKey; cases s.free <;> rfl

theorem Slab.remove_live (s : Slab) (k : Nat) : (s.remove k).1.live = s.live.filter (·.1 != k) := by
  unfold Slab.remove
  cases hf : s.live.find? (·.1 == k) with
  | some p => rfl
  | none =>
    refine (List.filter_eq_self.mpr fun p hp => ?_).symm
    simpa using List.find?_eq_none.mp hf p hp

theorem Slab.remove_keys (s : Slab) (k : Nat) : (s.remove k).1.live.map (·.1) = (s.live.map (·.1)).filter (· != k) := by
  rw [Slab.remove_live, List.filter_map]; rfl

theorem Slab.insert_len_le (s : Slab) (v : String) : (s.insert v).1.len ≤ max s.len (s.vacantKey + 1) := by
  unfold Slab.insert Slab.vacantKey; cases s.free
  · exact Nat.le_max_right ..
  · exact Nat.le_max_left ..

theorem Slab.remove_len (s : Slab) (k : Nat) : (s.remove k).1.len = s.len := by
  unfold Slab.remove; split <;> rfl

theorem Slab.remove_some {s : Slab} {k : Nat} {v : String} (h : (s.remove k).2 = some v) : (k, v) ∈ s.live := by
  unfold Slab.remove at h
  split at h
  · next k' v' hf =>
    cases h
    exact (List.find?_key_some hf).2 ▸ (List.find?_key_some hf).1
  · cases h

/-- the vacated keys, then the live ones: `insert` and `try_remove` permute this list or put `len` in front -/
def Slab.slots (s : Slab) : List Nat := s.free ++ s.live.map (·.1)

/-- distinct numbers below `n`: `SlabInv s` is `Below s.len s.slots` (`slabInv_iff`) -/
def Below (n : Nat) (l : List Nat) : Prop := l.Nodup ∧ ∀ k ∈ l, k < n

theorem Below.perm {n : Nat} {l l' : List Nat} (h : Below n l) (p : l'.Perm l) : Below n l' :=
  ⟨p.nodup_iff.mpr h.1, fun k hk => h.2 k (p.mem_iff.mp hk)⟩

theorem Below.cons_self {n : Nat} {l : List Nat} (h : Below n l) : Below (n + 1) (n :: l) :=
  ⟨List.nodup_cons.mpr ⟨fun hm => Nat.lt_irrefl n (h.2 n hm), h.1⟩,
   fun k hk => (List.mem_cons.mp hk).elim (· ▸ Nat.lt_succ_self _) fun hk => Nat.lt_succ_of_lt (h.2 k hk)⟩

theorem slabInv_iff (s : Slab) : SlabInv s ↔ Below s.len s.slots := by
  simp only [Below, Slab.slots, List.nodup_append, List.mem_append]
  constructor
  · rintro ⟨h1, h2, h3, h4, h5⟩
    exact ⟨⟨h2, h1, fun a ha b hb e => h3 a ha (e ▸ hb)⟩, fun k hk => hk.elim (h5 k) (h4 k)⟩
  · rintro ⟨⟨h2, h1, h3⟩, h4⟩
    exact ⟨h1, h2, fun k hk hm => h3 k hk k hm rfl, fun k hk => h4 k (.inr hk), fun k hk => h4 k (.inl hk)⟩

theorem Slab.insert_slots (s : Slab) (v : String) :
    ((s.insert v).1.slots.Perm s.slots ∧ (s.insert v).1.len = s.len) ∨
    ((s.insert v).1.slots = s.len :: s.slots ∧ (s.insert v).1.len = s.len + 1) := by
  unfold Slab.insert Slab.slots
  cases s.free with
  | nil => exact .inr ⟨rfl, rfl⟩
  | cons k rest => exact .inl ⟨List.perm_middle, rfl⟩

theorem Slab.remove_slots (s : Slab) (k : Nat) (h : (s.live.map (·.1)).Nodup) :
    (s.remove k).1.slots.Perm s.slots := by
  unfold Slab.remove Slab.slots
  cases hf : s.live.find? (·.1 == k) with
  | none => exact .refl _
  | some p =>
    -- the live keys are distinct, so filtering `k` out erases it once; it moves to the front of `free`
    have hk : k ∈ s.live.map (·.1) := List.mem_map.mpr ⟨p, List.find?_key_some hf⟩
    have e : (s.live.filter (·.1 != k)).map (·.1) = (s.live.map (·.1)).erase k :=
      List.filter_map.symm.trans (h.erase_eq_filter k).symm
    show (k :: s.free ++ (s.live.filter (·.1 != k)).map (·.1)).Perm _
    rw [e]
    exact List.perm_middle.symm.trans ((List.perm_cons_erase hk).symm.append_left _)

theorem empty_inv : SlabInv Slab.empty :=
  (slabInv_iff _).mpr ⟨.nil, fun _ h => nomatch h⟩

/-- `vacant_entry().key()` is never the key of a live entry -/
theorem vacant_not_live {s : Slab} (h : SlabInv s) : s.vacantKey ∉ s.live.map (·.1) := by
  rcases s.vacantKey_cases with ⟨_, e⟩ | hm
  · exact e ▸ fun hm => Nat.lt_irrefl _ (h.liveLt _ hm)
  · exact h.disjoint _ hm

theorem insert_inv {s : Slab} (v : String) (h : SlabInv s) : SlabInv (s.insert v).1 := by
  rw [slabInv_iff] at h ⊢
  rcases s.insert_slots v with ⟨p, e⟩ | ⟨e1, e2⟩
  · rw [e]; exact h.perm p
  · rw [e1, e2]; exact h.cons_self

theorem remove_inv {s : Slab} (k : Nat) (h : SlabInv s) : SlabInv (s.remove k).1 := by
  have p := s.remove_slots k h.liveNodup
  rw [slabInv_iff] at h ⊢
  rw [s.remove_len]; exact h.perm p

end Amqp.Handles
