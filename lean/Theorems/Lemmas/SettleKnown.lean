/-
  Which deliveries a disposition names: `known_delivery_ids_in_range` walks a narrow range and answers a
  wide one from the table (`knownIds_eq`); either way the same set (`mem_knownIds`).
-/
import Theorems.Lemmas.Settle
import Theorems.Lemmas.U32

namespace Amqp.Settle
open Amqp Amqp.Gen.Settle

theorem insertByOffset_perm (first id : Nat) : ∀ (l : List Nat), (insertByOffset first id l).Perm (id :: l)
  | [] => .refl _
  | x :: xs => by
    unfold insertByOffset
    split
    · exact .refl _
    · exact ((insertByOffset_perm first id xs).cons x).trans (.swap id x xs)

theorem sortByOffset_perm (first : Nat) : ∀ (l : List Nat), (sortByOffset first l).Perm l
  | [] => .refl _
  | x :: xs => (insertByOffset_perm first x _).trans ((sortByOffset_perm first xs).cons x)

/-- the serial range `first..=last` (nothing if `last` precedes `first`) -/
def InRange (first last id : Nat) : Prop :=
  wsub32 last first < 2147483648 ∧ wsub32 id first ≤ wsub32 last first

theorem knownIds_eq (byId : List Entry) (first last : Nat) :
    knownIds byId first last =
      if wsub32 last first < 2147483648 then
        if wsub32 last first < byId.length then
          ((List.range (wsub32 last first + 1)).map (wadd32 first)).filter fun id => byId.any (·.id == id)
        else sortByOffset first ((byId.map (·.id)).filter fun id => decide (wsub32 id first ≤ wsub32 last first))
      else [] := by
  unfold knownIds known_ids.cond_if_0 known_ids.cond_if_1 known_ids.let_span_0
  by_cases h0 : wsub32 last first < 2147483648
  · rw [if_neg (by simpa using h0), if_pos h0]
    simp only [decide_eq_true_eq]
  · rw [if_pos (by simpa using h0), if_neg h0]

/-- what a disposition names: exactly the deliveries the session has an entry for whose
    id lies in the serial range — whichever of the two branches computes it -/
theorem mem_knownIds (byId : List Entry) (first last id : Nat) (hf : first < 4294967296)
    (hlt : ∀ e ∈ byId, e.id < 4294967296) :
    id ∈ knownIds byId first last ↔ (∃ e ∈ byId, e.id = id) ∧ InRange first last id := by
  rw [knownIds_eq, InRange]
  split
  next h =>
    split
    · simp only [List.mem_filter, List.mem_map, List.mem_range, List.any_eq_true, beq_iff_eq, h, true_and]
      constructor
      · rintro ⟨⟨o, ho, rfl⟩, he⟩
        have ho := Nat.le_of_lt_succ ho
        exact ⟨he, by rwa [wsub32_wadd32 first o (Nat.lt_of_le_of_lt ho (wsub32_lt last first))]⟩
      · rintro ⟨⟨e, he, rfl⟩, hr⟩
        exact ⟨⟨_, Nat.lt_succ_of_le hr, wadd32_wsub32 first e.id (hlt e he)⟩, e, he, rfl⟩
    · simp [(sortByOffset_perm first _).mem_iff, h]
  next h => simp [h]

theorem knownIds_nodup (byId : List Entry) (first last : Nat) (hn : IdsNodup byId) :
    (knownIds byId first last).Nodup := by
  rw [knownIds_eq]
  split
  · split
    · -- offsets below 2^32 from `first` are different ids
      refine .sublist List.filter_sublist (List.pairwise_map.mpr (List.nodup_range.imp_of_mem ?_))
      intro a b ha hb hne heq
      have lt := fun {x} (hx : x ∈ List.range (wsub32 last first + 1)) =>
        Nat.lt_of_le_of_lt (Nat.le_of_lt_succ (List.mem_range.mp hx)) (wsub32_lt last first)
      exact hne (by rw [← wsub32_wadd32 first a (lt ha), heq, wsub32_wadd32 first b (lt hb)])
    · exact (sortByOffset_perm first _).nodup_iff.mpr (.sublist List.filter_sublist hn)
  · exact .nil

/-- work in proportion: whatever range a disposition names (2^31 - 1 delivery-ids wide, say) the session
    visits no more delivery-ids than it has deliveries outstanding -/
theorem disposition_work_bounded (byId : List Entry) (first last : Nat) :
    (knownIds byId first last).length ≤ byId.length := by
  rw [knownIds_eq]
  split
  · split
    · exact Nat.le_trans (List.length_filter_le ..) (by rw [List.length_map, List.length_range]; assumption)
    · rw [(sortByOffset_perm first _).length_eq]
      exact Nat.le_trans (List.length_filter_le ..) (by rw [List.length_map]; exact Nat.le_refl _)
  · exact Nat.zero_le _

end Amqp.Settle
