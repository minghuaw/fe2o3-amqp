/-
  The specification's encodings (`Amqp.CodecSpec.sEnc`) against the implementation: the decoder accepts every
  permitted encoding (`srt`), the encoder writes one of them (`enc_is_spec`), hence the encoder's round trip
  (`Codec.rt`).  What `sEnc ch v = some e` says of `e` is written down once (`View`: a constructor and a body
  that `decScalar` reads, or a header `Hdr` in front of the encoded elements); `sEnc_cost` and `srt` go by its
  cases.  The specification's literal bytes are compared with the generated constants by evaluation, where a
  proof meets them.  A proof that inverts `f … = some e` splits along `f` itself (`fun_cases`: one goal per arm,
  named `caseN` by its position in the definition).
-/
import Amqp.CodecSpec
import Theorems.Lemmas.Codec

namespace Amqp.CodecSpec
open Amqp.Codec Amqp.Gen.Codes

theorem be32_eq (n : Nat) : CodecSpec.be32 n = Codec.be32 n := rfl

theorem width_eq (k : FixedKind) : width k = k.width := by cases k <;> rfl

/-- the specification's constructor of each fixed-width primitive is the one the implementation uses -/
theorem fullCode_eq (k : FixedKind) : fullCode k = b8 k.code := by cases k <;> decide

theorem code8_eq (k : VarKind) : code8 k = b8 k.code8 := by cases k <;> decide
theorem code32_eq (k : VarKind) : code32 k = b8 k.code32 := by cases k <;> decide

theorem sx_eq (b : UInt8) : sx b = ext b := rfl

variable {v : Value} {vs : List Value} {ch : Ch} {cs : List Ch} {k : FixedKind} {c : UInt8} {bs r d e body buf : Bytes}
  {form c8 c32 o8 o32 len n : Nat} {wide ew : Bool}

/-- `c :: d` is an encoding of the scalar `v` that the decoder reads -/
structure ScalarOk (v : Value) (c : UInt8) (d : Bytes) : Prop where
  isCode : isCode c.toNat = true
  notCompound : isCompoundCode c.toNat = false
  dec : WF v → ∀ rest, decScalar c.toNat (d ++ rest) = some (.ok (v, rest))
  body : zeroWidth c.toNat = false → 1 ≤ d.length
  descriptor : (∃ bs, v = .var .symbol bs) ∨ (∃ bs, v = .fixed .ulong bs) → isDescriptorCode c.toNat = true
  leaf : cost v = 1

theorem sNull_ok : ScalarOk .null (b8 cNull) [] := ⟨by decide, by decide, fun _ _ => rfl, by decide, by simp, rfl⟩

theorem sBool_ok {b : Bool} (h : sBool form b = some e) :
    ∃ c d, e = c :: d ∧ ScalarOk (.bool b) c d ∧ (form ≠ 0 → zeroWidth c.toNat = false) := by
  unfold sBool at h
  split at h
  · cases h
    exact ⟨_, _, rfl, by cases b <;> exact ⟨by decide, by decide, fun _ _ => rfl, by decide, by simp, rfl⟩,
      by simp⟩
  · cases h
    exact ⟨_, _, rfl, ⟨by decide, by decide, fun _ => decScalar_boolean b, by simp, by simp, rfl⟩, fun _ => by decide⟩
  · cases h

theorem scalarOk_of_compact {c : Nat} (h : Compact k bs c r) :
    ScalarOk (.fixed k bs) (b8 c) r := by
  have hc := b8_toNat c h.codes.1
  refine ⟨?_, ?_, fun _ rest => ?_, ?_, ?_, rfl⟩ <;> rw [hc]
  · exact h.codes.2.1
  · exact h.codes.2.2.1
  · exact h.dec rest
  · cases h <;> simp +decide
  · rintro (⟨_, hv⟩ | ⟨_, hv⟩) <;> cases hv
    cases h <;> decide

theorem sFixed_ok (h : sFixed form k bs = some e) :
    ∃ c d, e = c :: d ∧ ScalarOk (.fixed k bs) c d ∧ (form ≠ 2 → zeroWidth c.toNat = false) := by
  revert h
  fun_cases sFixed form k bs with
  | case2 k bs hlen =>
    rintro ⟨⟩
    have hw : bs.length = k.width := width_eq k ▸ Decidable.not_not.mp hlen
    obtain ⟨c1, c2, c3⟩ := fixed_codes k
    have hc : (fullCode k).toNat = k.code := by rw [fullCode_eq, b8_toNat _ c1]
    refine ⟨_, _, rfl, ⟨hc ▸ c2, hc ▸ c3, fun hv rest => hc ▸ decScalar_fixed k bs rest hw hv.2,
      fun _ => hw ▸ width_pos k, ?_, rfl⟩, fun _ => hc ▸ ?_⟩
    · rintro (⟨_, h⟩ | ⟨_, h⟩) <;> cases h
      decide
    · cases k <;> decide
  | case3 d =>
    rintro ⟨⟩
    exact ⟨_, _, rfl, scalarOk_of_compact (.smallUint d), fun _ => by decide⟩
  | case4 d =>
    rintro ⟨⟩
    exact ⟨_, _, rfl, scalarOk_of_compact (.smallUlong d), fun _ => by decide⟩
  | case5 _ _ _ d hx =>
    obtain ⟨rfl, rfl, rfl⟩ := hx
    rintro ⟨⟩
    exact ⟨_, _, rfl, scalarOk_of_compact (.smallInt d), fun _ => by decide⟩
  | case7 _ _ _ _ _ _ _ d hx =>
    obtain ⟨rfl, rfl, rfl, rfl, rfl, rfl, rfl⟩ := hx
    rintro ⟨⟩
    exact ⟨_, _, rfl, scalarOk_of_compact (.smallLong d), fun _ => by decide⟩
  | case10 =>
    rintro ⟨⟩
    exact ⟨_, _, rfl, scalarOk_of_compact .uint0, by simp⟩
  | case11 =>
    rintro ⟨⟩
    exact ⟨_, _, rfl, scalarOk_of_compact .ulong0, by simp⟩
  | _ => exact nofun

theorem sVar_ok {k : VarKind} (h : sVar wide k bs = some e) :
    ∃ c d, e = c :: d ∧ ScalarOk (.var k bs) c d ∧ zeroWidth c.toNat = false := by
  obtain ⟨a1, a2, a3, b1, b2, b3⟩ := var_codes k
  revert h
  fun_cases sVar wide k bs with
  | case1 _ hl =>
    rintro ⟨⟩
    have hc : (code32 k).toNat = k.code32 := by rw [code32_eq, b8_toNat _ b1]
    refine ⟨_, _, rfl, ⟨hc ▸ b2, hc ▸ b3, fun hv rest => ?_, by simp [CodecSpec.be32], ?_, rfl⟩, hc ▸ ?_⟩
    · have := decScalar_var k (w := true) bs rest (lenField32 hl) hv.1
      rw [hc, be32_eq]; simpa using this
    · rintro (⟨_, h⟩ | ⟨_, h⟩) <;> cases h
      decide
    · cases k <;> decide
  | case3 _ hl =>
    rintro ⟨⟩
    have hc : (code8 k).toNat = k.code8 := by rw [code8_eq, b8_toNat _ a1]
    refine ⟨_, _, rfl, ⟨hc ▸ a2, hc ▸ a3, fun hv rest => hc ▸ (decScalar_var k bs rest (lenField8 hl) hv.1 :
      decScalar k.code8 (b8 bs.length :: bs ++ rest) = _), by simp, ?_, rfl⟩, hc ▸ ?_⟩
    · rintro (⟨_, h⟩ | ⟨_, h⟩) <;> cases h
      decide
    · cases k <;> decide
  | _ => exact nofun

theorem ScalarOk.dec_eq (ok : ScalarOk v c d) (hw : WF v)
    (fuel depth zw : Nat) (tail : Bytes) :
    Codec.dec (fuel + 1) depth ⟨c :: d ++ tail, none, zw⟩ = .ok (v, ⟨tail, none, zw⟩) := by
  have := dec_scalar fuel depth c.toNat (d ++ tail) zw v tail c.toNat_lt ok.isCode ok.notCompound (ok.dec hw tail)
  simpa [b8] using this

theorem sElemF_ok (h : sElemF form ew v = some (c, d)) : ScalarOk v c d ∧ zeroWidth c.toNat = false := by
  revert h
  fun_cases sElemF form ew v with
  | case1 b =>
    rintro ⟨⟩
    obtain ⟨_, _, he, ok, z⟩ := sBool_ok (form := 1) (b := b) rfl
    cases he
    exact ⟨ok, z (by decide)⟩
  | case3 _ _ hf _ _ hs =>
    rintro ⟨⟩
    obtain ⟨_, _, he, ok, z⟩ := sFixed_ok hs
    cases he
    exact ⟨ok, z hf⟩
  | case5 _ _ _ _ hs =>
    rintro ⟨⟩
    obtain ⟨_, _, he, ok, z⟩ := sVar_ok hs
    cases he
    exact ⟨ok, z⟩
  | _ => exact nofun

theorem sElemsF_cons (h : sElemsF form ew c (v :: vs) = some body) :
    ∃ d rest, ScalarOk v c d ∧ zeroWidth c.toNat = false ∧ sElemsF form ew c vs = some rest ∧ body = d ++ rest := by
  simp only [sElemsF, Option.bind_eq_bind, Option.bind_eq_some_iff, Option.ite_none_left_eq_some, Decidable.not_not,
    Option.some.injEq] at h
  obtain ⟨⟨_, d⟩, he, rfl, rest, hr, rfl⟩ := h
  exact ⟨d, rest, (sElemF_ok he).1, (sElemF_ok he).2, hr, rfl⟩

theorem sElemsF_size : ∀ {vs : List Value} {body : Bytes},
    sElemsF form ew c vs = some body → costAll vs = 2 * vs.length + 1 ∧ vs.length ≤ body.length
  | [], _, _ => by simp [costAll]
  | v :: vs, _, h => by
    obtain ⟨d, rest, ok, z, hr, rfl⟩ := sElemsF_cons h
    have := ok.body z
    have := sElemsF_size hr
    simp only [costAll, ok.leaf, List.length_cons, List.length_append]; omega

theorem decArr_spec : ∀ {vs : List Value} {body : Bytes},
    sElemsF form ew c vs = some body → WFAll vs →
    ∀ (tail : Bytes) (fuel depth zw startLen size : Nat), vs.length + 1 ≤ fuel → startLen ≤ size + tail.length →
    decArr fuel depth vs.length ⟨body ++ tail, some c.toNat, zw⟩ startLen size = .ok (vs, ⟨tail, none, zw⟩)
  | [], _, h, _, tail, fuel + 1, depth, zw, startLen, size, _, _ => by cases h; simp [decArr, pure, Except.pure]
  | v :: vs, _, h, hw, tail, fuel + 2, depth, zw, startLen, size, hf, hs => by
    obtain ⟨d, rest, ok, -, hr, rfl⟩ := sElemsF_cons h
    have hd := dec_elem fuel depth c.toNat (d ++ (rest ++ tail)) zw v (rest ++ tail) ok.notCompound
      (ok.dec hw.1 (rest ++ tail))
    have ih := decArr_spec hr hw.2 tail (fuel + 1) depth zw startLen size (Nat.le_of_succ_le_succ hf) hs
    -- the bytes consumed so far stay within the size field, since at least `tail` is left
    have hsz : ¬ (startLen - (rest ++ tail).length > size) :=
      Nat.not_lt.mpr (Nat.sub_le_of_le_add (Nat.le_trans hs
        (Nat.add_le_add_left (List.length_append ▸ Nat.le_add_left _ _) _)))
    simp only [List.length_cons, decArr, List.append_assoc, hd, bind, Except.bind, hsz, if_false, ih,
      pure, Except.pure]

/-- `e` is a compound header in front of `body`: the constructor `c8` or `c32`, a size field holding `len` and
    the offset that goes with the width, a count field holding `n` -/
inductive Hdr (c8 c32 o8 o32 len n : Nat) (body : Bytes) : Bytes → Prop
  | mk {w : Bool} {lb nb : Bytes} : LenField w lb (len + if w then o32 else o8) → LenField w nb n →
      Hdr c8 c32 o8 o32 len n body (b8 (if w then c32 else c8) :: (lb ++ (nb ++ body)))

theorem Hdr.length (h : Hdr c8 c32 o8 o32 len n body e) :
    body.length + 1 ≤ e.length := by
  cases h
  simp only [List.length_cons, List.length_append]; omega

/-- the header the specification writes out, in the same words, for a list, a map and an array: those arms of
    `sEnc` are instances of it by unfolding -/
def sHdr (wide : Bool) (c8 c32 len o8 o32 n : Nat) (body : Bytes) : Option Bytes :=
  if wide then
    (if len + o32 < 4294967296 ∧ n < 4294967296 then some (b8 c32 :: be32 (len + o32) ++ be32 n ++ body) else none)
  else (if len + o8 < 256 ∧ n < 256 then some (b8 c8 :: b8 (len + o8) :: b8 n :: body) else none)

theorem sHdr_hdr (h : sHdr wide c8 c32 len o8 o32 n body = some e) : Hdr c8 c32 o8 o32 len n body e := by
  revert h
  fun_cases sHdr wide c8 c32 len o8 o32 n body with
  | case1 _ hl =>
    rintro ⟨⟩
    rw [List.append_assoc]
    exact .mk (lenField32 hl.1) (lenField32 hl.2)
  | case3 _ hl =>
    rintro ⟨⟩
    exact .mk (lenField8 hl.1) (lenField8 hl.2)
  | _ => exact nofun

/-- what `sEnc ch v = some e` says of `e`, by the form of `v` -/
inductive View : Value → Bytes → Prop
  | scalar {v : Value} {c : UInt8} {d : Bytes} : ScalarOk v c d → View v (c :: d)
  | list0 : View (.list []) [b8 cList0]
  | list {vs : List Value} {cs : List Ch} {body e : Bytes} : sEncAll cs vs = some body →
      Hdr cList8 cList32 1 4 body.length vs.length body e → View (.list vs) e
  | map {vs : List Value} {cs : List Ch} {body e : Bytes} : sEncAll cs vs = some body → vs.length % 2 = 0 →
      Hdr cMap8 cMap32 1 4 body.length vs.length body e → View (.map vs) e
  | array0 {e : Bytes} : Hdr cArray8 cArray32 1 4 0 0 [] e → View (.array []) e
  | array {v : Value} {ws : List Value} {form : Nat} {ew : Bool} {c : UInt8} {body e : Bytes} :
      sElemsF form ew c (v :: ws) = some body →
      Hdr cArray8 cArray32 2 5 body.length (v :: ws).length (b8 c.toNat :: body) e → View (.array (v :: ws)) e
  | described {d v : Value} {cd cv : Ch} {a b : Bytes} : sEnc cd d = some a → sEnc cv v = some b →
      View (.described d v) (b8 cDescribedType :: (a ++ b))

theorem sEnc_view (h : sEnc ch v = some e) : View v e := by
  revert h
  fun_cases sEnc ch v with
  | case1 =>
    rintro ⟨⟩
    exact .scalar sNull_ok
  | case2 =>
    intro h
    obtain ⟨_, _, rfl, ok, _⟩ := sBool_ok h
    exact .scalar ok
  | case3 =>
    intro h
    obtain ⟨_, _, rfl, ok, _⟩ := sFixed_ok h
    exact .scalar ok
  | case4 =>
    intro h
    obtain ⟨_, _, rfl, ok, _⟩ := sVar_ok h
    exact .scalar ok
  | case5 =>
    intro h
    obtain ⟨body, hb, h⟩ := Option.bind_eq_some_iff.mp h
    split at h
    · simp only [Option.ite_none_right_eq_some, Option.some.injEq, List.isEmpty_iff] at h
      obtain ⟨rfl, rfl⟩ := h
      exact .list0
    · exact .list hb (sHdr_hdr h)
  | case6 =>
    intro h
    obtain ⟨body, hb, h⟩ := Option.bind_eq_some_iff.mp h
    split at h
    · cases h
    · exact .map hb (Decidable.not_not.mp ‹_›) (sHdr_hdr h)
  | case7 =>
    rintro ⟨⟩
    exact .array0 (sHdr_hdr (wide := true) rfl)
  | case8 =>
    rintro ⟨⟩
    exact .array0 (sHdr_hdr (wide := false) rfl)
  | case9 =>
    intro h
    obtain ⟨_, _, h⟩ := Option.bind_eq_some_iff.mp h
    obtain ⟨body, hb, h⟩ := Option.bind_eq_some_iff.mp h
    exact .array hb (by simpa [b8] using (sHdr_hdr h : Hdr cArray8 cArray32 2 5 _ _ _ e))
  | case10 =>
    intro h
    obtain ⟨a, ha, h⟩ := Option.bind_eq_some_iff.mp h
    obtain ⟨b, hb, h⟩ := Option.bind_eq_some_iff.mp h
    have : b8 cDescribedType :: (a ++ b) = e := by split at h <;> cases h <;> rfl
    exact this ▸ .described ha hb
  | case11 => exact nofun

theorem sEncAll_cons (h : sEncAll cs (v :: vs) = some e) :
    ∃ c cs' a b, sEnc c v = some a ∧ sEncAll cs' vs = some b ∧ e = a ++ b := by
  cases cs <;> try (cases h; done)
  simp only [sEncAll, Option.bind_eq_bind, Option.bind_eq_some_iff, Option.some.injEq] at h
  obtain ⟨a, ha, b, hb, h⟩ := h
  exact ⟨_, _, a, b, ha, hb, h.symm⟩

mutual
  theorem sEnc_cost : ∀ (v : Value) (ch : Ch) (e : Bytes), sEnc ch v = some e → cost v + 1 ≤ 4 * e.length
    | v, ch, e, h => by
      cases sEnc_view h with
      | scalar ok => exact ok.leaf ▸ leaf_cost (Nat.succ_pos _)
      | list0 => decide
      | list hb hh => exact node_cost (sEncAll_cost _ _ _ hb) hh.length
      | map hb _ hh => exact node_cost (sEncAll_cost _ _ _ hb) hh.length
      | array0 hh => exact node_cost (c := 1) (b := 0) (by decide) hh.length
      | array hb hh =>
        have ⟨hc, hl⟩ := sElemsF_size hb
        exact node_cost (by rw [hc]; omega) (Nat.le_of_succ_le hh.length)
      | described ha hb =>
        rw [List.length_cons, List.length_append]
        exact desc_cost (sEnc_cost _ _ _ ha) (sEnc_cost _ _ _ hb)
  theorem sEncAll_cost : ∀ (vs : List Value) (cs : List Ch) (e : Bytes), sEncAll cs vs = some e → costAll vs ≤ 1 + 4 * e.length
    | [], cs, e, h => Nat.le_add_right 1 _
    | v :: vs, cs, e, h => by
      obtain ⟨c, cs', a, b, ha, hb, rfl⟩ := sEncAll_cons h
      exact List.length_append ▸ pair_cost (sEnc_cost v c a ha) (sEncAll_cost vs cs' b hb)
end

theorem sEnc_ne (h : sEnc ch v = some e) : ∃ x r, e = x :: r := by
  cases e
  · exact absurd (sEnc_cost v ch [] h) (Nat.not_succ_le_zero _)
  · exact ⟨_, _, rfl⟩

theorem sEnc_descriptor (h : sEnc ch v = some e)
    (hd : (∃ bs, v = .var .symbol bs) ∨ (∃ bs, v = .fixed .ulong bs)) :
    ∃ c r, e = c :: r ∧ isDescriptorCode c.toNat = true := by
  cases sEnc_view h with
  | scalar ok => exact ⟨_, _, rfl, ok.descriptor hd⟩
  | _ => simp at hd

theorem node_fuel {c fuel : Nat} (hf : 1 + c ≤ fuel + 1) : c ≤ fuel := by omega

theorem pair_fuel {a b fuel : Nat} (hf : 1 + a + b ≤ fuel + 1) : a ≤ fuel ∧ b ≤ fuel := by omega

theorem node_depth {n depth : Nat} (hd : 1 + n ≤ depth) : n ≤ depth - 1 ∧ 0 < depth := by omega

mutual
  /-- `rt` (the round trip at the level of `dec`) for the specification's encodings: `s` for `sEnc` -/
  theorem srt : ∀ (v : Value), WF v → ∀ (ch : Ch) (e : Bytes), sEnc ch v = some e →
      ∀ (tail : Bytes) (fuel depth zw : Nat), cost v ≤ fuel → nest v ≤ depth →
      dec fuel depth ⟨e ++ tail, none, zw⟩ = .ok (v, ⟨tail, none, zw⟩)
    | v, _, _, _, _, _, 0, _, _, hf, _ => absurd (Nat.le_trans (cost_pos v) hf) (Nat.not_succ_le_zero 0)
    | v, hw, ch, e, he, tail, fuel + 1, depth, zw, hf, hd => by
      cases sEnc_view he with
      | scalar ok => exact ok.dec_eq hw ..
      | list0 => exact dec_list0 fuel _ zw tail (node_depth hd).2
      | @list vs cs body _ hb hh =>
        obtain ⟨hlb, hnb⟩ := hh
        have ⟨hd', hdep⟩ := node_depth hd
        have ih := srtAll vs hw.list.1 cs body hb tail fuel (depth - 1) zw (node_fuel hf) hd'
        simp only [List.cons_append, List.append_assoc]
        rw [dec_list fuel depth zw (body ++ tail) hlb hnb (Nat.le_add_left _ _) hw.list.2 hdep, ih]; rfl
      | @map vs cs body _ hb hev hh =>
        obtain ⟨hlb, hnb⟩ := hh
        have ⟨hd', hdep⟩ := node_depth hd
        have ih := srtAll vs hw.map.1 cs body hb tail fuel (depth - 1) zw (node_fuel hf) hd'
        simp only [List.cons_append, List.append_assoc]
        rw [dec_map fuel depth zw (body ++ tail) hlb hnb (Nat.le_add_left _ _) hw.map.2.2.1 hev hdep, ih]
        simp only [bind, Except.bind, pure, Except.pure, hw.map.2.2.2]
      | array0 hh =>
        obtain ⟨hlb, hnb⟩ := hh
        simp only [List.cons_append, List.append_assoc]
        exact dec_array_empty fuel depth zw _ hlb hnb (node_depth hd).2
      | @array v ws _ _ c body _ hb hh =>
        -- arrays hold simple values only: no recursion into `dec`
        obtain ⟨hlb, hnb⟩ := hh
        obtain ⟨_, _, ok, z, -, -⟩ := sElemsF_cons hb
        have harr := decArr_spec hb hw.array.1 tail fuel (depth - 1) zw (body ++ tail).length body.length
          (Nat.le_trans (costAll_ge _) (node_fuel hf)) (Nat.le_of_eq List.length_append)
        simp only [List.cons_append, List.append_assoc]
        rw [dec_array fuel depth zw (body ++ tail) hlb hnb (Nat.le_add_left _ _) (Nat.succ_pos _)
          (Nat.le_trans (sElemsF_size hb).2 (Nat.le_add_right _ _)) hw.array.2.1 c.toNat_lt ok.isCode z
          (node_depth hd).2, Nat.add_sub_cancel, harr]
        rfl
      | @described d v cd cv a b ha hb =>
        have ⟨hd', hdep⟩ := node_depth hd
        have hf' := pair_fuel hf
        obtain ⟨hdesc, hwd, hwv⟩ := hw.described
        have i1 := srt d hwd cd a ha (b ++ tail) fuel (depth - 1) zw hf'.1 (Nat.max_le.mp hd').1
        have i2 := srt v hwv cv b hb tail fuel (depth - 1) zw hf'.2 (Nat.max_le.mp hd').2
        obtain ⟨dcb, r, rfl, hdc⟩ := sEnc_descriptor ha hdesc
        -- the decoder looks for a second element behind the descriptor before it decodes one
        obtain ⟨x, b, rfl⟩ := sEnc_ne hb
        have := dec_described fuel depth zw dcb (r ++ (x :: b ++ tail)) hdc hdep
        simp only [List.cons_append, List.append_assoc] at this i1 i2 ⊢
        rw [this, i1]
        simp only [bind, Except.bind, List.isEmpty_cons, Bool.false_eq_true, if_false, i2, pure, Except.pure]
  theorem srtAll : ∀ (vs : List Value), WFAll vs → ∀ (cs : List Ch) (e : Bytes), sEncAll cs vs = some e →
      ∀ (tail : Bytes) (fuel depth zw : Nat), costAll vs ≤ fuel → nestAll vs ≤ depth →
      decN fuel depth vs.length ⟨e ++ tail, none, zw⟩ = .ok (vs, ⟨tail, none, zw⟩)
    | vs, _, _, _, _, _, 0, _, _, hf, _ => absurd (Nat.le_trans (costAll_ge vs) hf) (Nat.not_succ_le_zero _)
    | [], _, cs, e, he, tail, fuel + 1, depth, zw, _, _ => by
      cases cs <;> cases he
      simp [decN, pure, Except.pure]
    | v :: vs, hw, cs, e, he, tail, fuel + 1, depth, zw, hf, hd => by
      have hf' := pair_fuel hf
      have hd' := Nat.max_le.mp (show max (nest v) (nestAll vs) ≤ depth from hd)
      obtain ⟨c, cs', a, b, ha, hb, rfl⟩ := sEncAll_cons he
      have i1 := srt v hw.cons.1 c a ha (b ++ tail) fuel depth zw hf'.1 hd'.1
      have i2 := srtAll vs hw.cons.2 cs' b hb tail fuel depth zw hf'.2 hd'.2
      simp only [List.length_cons, decN, List.append_assoc, i1, bind, Except.bind, i2, pure, Except.pure]
end

theorem encFixed_is_spec (hw : bs.length = k.width) :
    ∃ form, sFixed form k bs = some (encFixed .none k bs) := by
  unfold encFixed
  cases hs : smallForm k bs with
  | some s =>
    obtain ⟨c, r, rfl, hc⟩ := smallForm_compact hs
    cases hc
    · exact ⟨2, rfl⟩
    · exact ⟨1, rfl⟩
    · exact ⟨2, rfl⟩
    · exact ⟨1, rfl⟩
    · exact ⟨1, by simp [sFixed, width, sx_eq]; rfl⟩
    · exact ⟨1, by simp [sFixed, width, sx_eq]; rfl⟩
  | none => exact ⟨0, by simp [sFixed, width_eq, hw, fullCode_eq]⟩

theorem encVar_is_spec {k : VarKind} (hl : bs.length < 4294967296) (h : encVar .none k bs = some e) :
    ∃ wide, sVar wide k bs = some e := by
  simp only [encVar] at h
  split at h
  · cases h
    exact ⟨false, by simp_all [sVar, U8_MAX_MINUS_1, code8_eq]; exact ⟨by omega, rfl⟩⟩
  · split at h <;> cases h
    exact ⟨true, by simp [sVar, hl, code32_eq, be32_eq]⟩

theorem writeHdr_sHdr (h : writeHdr c8 c32 o8 o32 .none n buf = some e)
    (ho : o8 ≤ 1 ∧ o32 ≤ 4) (hn : n ≤ buf.length) :
    ∃ wide, sHdr wide c8 c32 buf.length o8 o32 n buf = some e := by
  unfold writeHdr at h
  simp only [U8_MAX_MINUS_1, U32_MAX_MINUS_4, Ctx.writesCode, if_true] at h
  split at h
  · cases h
    refine ⟨false, ?_⟩
    simp only [sHdr, Bool.false_eq_true, if_false]
    rw [if_pos (by omega)]
    rfl
  · split at h <;> cases h
    refine ⟨true, ?_⟩
    simp only [sHdr, if_true]
    rw [if_pos (by omega)]
    simp [be32_eq]

theorem sElemF_default (hn : elemCode v = some n) (hw : WF v)
    (he : enc .other v = some d) : sElemF 0 true v = some (b8 n, d) := by
  cases v <;> cases hn <;> cases he
  · rename_i b; cases b <;> rfl
  · rename_i k bs
    have : bs.length = width k := by rw [width_eq]; exact hw.1
    simp [sElemF, sFixed, this, fullCode_eq, encFixed]
  · rename_i k bs
    have : bs.length < 4294967296 := hw.2
    simp [sElemF, sVar, this, code32_eq, be32_eq]

theorem sElemsF_default : ∀ {vs : List Value} {body : Bytes}, (∀ v ∈ vs, elemCode v = some n) → WFAll vs →
    encElems false vs = some body → sElemsF 0 true (b8 n) vs = some body
  | [], _, _, _, h => by cases h; rfl
  | v :: vs, _, hc, hw, h => by
    obtain ⟨a, h1, b, h2, rfl⟩ := encElems_cons_some.1 h
    obtain ⟨hcv, hcs⟩ := List.forall_mem_cons.1 hc
    simp [sElemsF, sElemF_default hcv hw.1 h1, sElemsF_default hcs hw.2 h2]

theorem array_is_spec (hw : WFAll vs) (hs : SameSimple vs)
    (hb : encElems true vs = some buf) (h : writeArray .none vs.length buf = some e) :
    ∃ ch, sEnc ch (.array vs) = some e := by
  cases vs with
  | nil =>
    cases hb
    cases h
    exact ⟨.node false false [], rfl⟩
  | cons v ws =>
    obtain ⟨c, hc⟩ := sameSimple_code v ws hs
    obtain ⟨hcv, hcs⟩ := List.forall_mem_cons.1 hc
    have hn := encElems_len true _ hw _ hb
    -- the buffer is the constructor followed by the bodies of all elements
    obtain ⟨a, ha⟩ := enc_other_some v (by rw [hcv]; rfl)
    obtain ⟨_, h1, b, h2, rfl⟩ := encElems_cons_some.1 hb
    cases (enc_first v c hcv a ha).symm.trans h1
    obtain ⟨wide, hh⟩ := writeHdr_sHdr (writeArray_eq ▸ h) (by decide) hn
    exact ⟨.node wide false [], by
      simp only [sEnc, elemChoice, sElemsF, sElemF_default hcv hw.1 ha, sElemsF_default hcs hw.2 h2,
        Option.bind_eq_bind, Option.bind_some, ne_eq, not_true_eq_false, if_false]
      exact hh⟩

mutual
  theorem enc_is_spec : ∀ (v : Value), WF v → ∀ (e : Bytes), enc .none v = some e → ∃ ch, sEnc ch v = some e
    | .null, _, e, he => ⟨.leaf 0 false, he⟩
    | .bool b, _, e, he => by
      cases he
      exact ⟨.leaf 0 false, by cases b <;> rfl⟩
    | .fixed k bs, hw, e, he => by
      cases he
      obtain ⟨form, h⟩ := encFixed_is_spec hw.1
      exact ⟨.leaf form false, h⟩
    | .var k bs, hw, e, he => by
      obtain ⟨wide, h⟩ := encVar_is_spec hw.2 he
      exact ⟨.leaf 0 wide, h⟩
    | .list vs, hw, e, he => by
      obtain ⟨buf, hb, he⟩ := enc_list_some.1 he
      obtain ⟨cs, hcs⟩ := encAll_is_spec vs hw.list.1 buf hb
      have hlen := encAll_len vs hw.list.1 buf hb
      rw [writeList_eq] at he
      split at he
      · cases he
        cases List.length_eq_zero_iff.mp (Nat.le_zero.mp (‹buf.length = 0› ▸ hlen))
        exact ⟨.node false true cs, by rw [sEnc, hcs]; rfl⟩
      · obtain ⟨wide, h⟩ := writeHdr_sHdr he (by decide) hlen
        exact ⟨.node wide false cs, by rw [sEnc, hcs]; exact h⟩
    | .map vs, hw, e, he => by
      obtain ⟨buf, hb, he⟩ := enc_map_some.1 he
      obtain ⟨cs, hcs⟩ := encAll_is_spec vs hw.map.1 buf hb
      obtain ⟨wide, h⟩ := writeHdr_sHdr (writeMap_eq ▸ he) (by decide) (encAll_len vs hw.map.1 buf hb)
      exact ⟨.node wide false cs, by rw [sEnc, hcs]; exact (if_neg (not_not_intro hw.map.2.1)).trans h⟩
    | .array vs, hw, e, he => by
      obtain ⟨buf, hb, he⟩ := enc_array_some.1 he
      exact array_is_spec hw.array.1 hw.array.2.2 hb he
    | .described d v, hw, e, he => by
      have hw' := hw.described
      obtain ⟨a, h1, b, h2, rfl⟩ := enc_described_some.1 he
      obtain ⟨cd, hcd⟩ := enc_is_spec d hw'.2.1 a h1
      obtain ⟨cv, hcv⟩ := enc_is_spec v hw'.2.2 b h2
      refine ⟨.desc cd cv, ?_⟩
      rcases hw'.1 with ⟨bs, rfl⟩ | ⟨bs, rfl⟩ <;> simp [sEnc, hcd, hcv] <;> rfl
  theorem encAll_is_spec : ∀ (vs : List Value), WFAll vs → ∀ (e : Bytes), encAll vs = some e → ∃ cs, sEncAll cs vs = some e
    | [], _, e, he => by cases he; exact ⟨[], rfl⟩
    | v :: vs, hw, e, he => by
      have hw' := hw.cons
      obtain ⟨a, h1, b, h2, rfl⟩ := encAll_cons_some.1 he
      obtain ⟨c, hc⟩ := enc_is_spec v hw'.1 a h1
      obtain ⟨cs, hcs⟩ := encAll_is_spec vs hw'.2 b h2
      exact ⟨c :: cs, by simp [sEncAll, hc, hcs]⟩
end

/-- Whatever choices the encoding peer makes among the encodings the specification permits for a value —
    zero-width, one-byte or full-width integers; boolean as 0x41 / 0x42 or as 0x56 with a byte; 8- or 32-bit
    lengths for binary, string and symbol; list0, list8 or list32; map8 or map32; array8 or array32 — at every
    node of a value nested up to the decoder's depth limit, the bytes, followed by anything, decode to exactly
    that value and leave exactly what followed. -/
theorem every_variant_accepted (v : Value) (hw : WF v) (hn : nest v ≤ MAX_NESTING_DEPTH) (ch : Ch) (e tail : Bytes)
    (he : sEnc ch v = some e) : decode (e ++ tail) = .ok (v, tail) :=
  decode_ok_of_dec tail (sEnc_cost v ch e he) fun fuel hf => srt v hw ch e he tail fuel _ _ hf hn

end Amqp.CodecSpec

namespace Amqp.Codec

/-- what the encoder writes is one of the encodings the specification permits, and the decoder accepts all of those -/
theorem rt : ∀ (v : Value), WF v → ∀ (e : Bytes), enc .none v = some e →
    ∀ (tail : Bytes) (fuel depth zw : Nat), cost v ≤ fuel → nest v ≤ depth →
    dec fuel depth ⟨e ++ tail, none, zw⟩ = .ok (v, ⟨tail, none, zw⟩) :=
  fun v hw e he tail fuel depth zw hf hd =>
    let ⟨ch, h⟩ := CodecSpec.enc_is_spec v hw e he
    CodecSpec.srt v hw ch e h tail fuel depth zw hf hd

theorem rtAll : ∀ (vs : List Value), WFAll vs → ∀ (e : Bytes), encAll vs = some e →
    ∀ (tail : Bytes) (fuel depth zw : Nat), costAll vs ≤ fuel → nestAll vs ≤ depth →
    decN fuel depth vs.length ⟨e ++ tail, none, zw⟩ = .ok (vs, ⟨tail, none, zw⟩) :=
  fun vs hw e he tail fuel depth zw hf hd =>
    let ⟨cs, h⟩ := CodecSpec.encAll_is_spec vs hw e he
    CodecSpec.srtAll vs hw cs e h tail fuel depth zw hf hd

end Amqp.Codec

