/-
  The settling echo of an unsettled disposition: the ids echoed are collected into runs of consecutive ids
  (`pushRun`), the runs name exactly those ids (`expandRuns_foldl`), and those are the named deliveries
  of links in mode second (`echoedIds_eq_filter`).
-/
import Theorems.Lemmas.Settle
import Theorems.Lemmas.U32

namespace Amqp.Settle

/-- the delivery-ids a disposition `first..last` names, in order -/
def expand (r : Nat × Nat) : List Nat := (List.range (wsub32 r.2 r.1 + 1)).map (fun o => wadd32 r.1 o)

/-- ids named by a list of runs kept most-recent-first -/
def expandRuns (runs : List (Nat × Nat)) : List Nat := (runs.reverse.map expand).flatten

theorem expandRuns_cons (r : Nat × Nat) (runs : List (Nat × Nat)) :
    expandRuns (r :: runs) = expandRuns runs ++ expand r := by
  simp [expandRuns]

theorem expand_single (id : Nat) (h : id < 4294967296) : expand (id, id) = [id] := by
  rw [expand, wsub32_self]
  exact congrArg (· :: []) (Nat.mod_eq_of_lt h)

theorem expand_succ (f l : Nat) (hlen : wsub32 l f + 1 < 4294967296) :
    expand (f, wadd32 l 1) = expand (f, l) ++ [wadd32 l 1] := by
  have h2 : wadd32 f (wsub32 l f + 1) = wadd32 l 1 := by
    rw [← wadd32_wadd32, wadd32, wadd32, wadd32, Nat.add_comm f, wsub32_add_mod, Nat.mod_add_mod]
  simp only [expand, wsub32_wadd32_add f l 1 hlen]
  rw [List.range_succ, List.map_append, List.map_singleton, h2]

theorem expandRuns_pushRun (runs : List (Nat × Nat)) (id : Nat) (hid : id < 4294967296)
    (hlen : (expandRuns runs).length + 1 < 4294967296) :
    expandRuns (pushRun runs id) = expandRuns runs ++ [id] := by
  unfold pushRun
  split
  · rename_i f l rest
    split
    · rename_i heq
      have : wsub32 l f + 1 < 4294967296 := by
        rw [expandRuns_cons, List.length_append, expand, List.length_map, List.length_range] at hlen
        exact Nat.lt_of_le_of_lt (Nat.le_add_left _ _) (Nat.lt_of_succ_lt hlen)
      rw [expandRuns_cons, expandRuns_cons, heq, expand_succ f l this, List.append_assoc]
    · rw [expandRuns_cons, expand_single id hid]
  · rw [expandRuns_cons, expand_single id hid]

theorem expandRuns_foldl : ∀ (l : List Nat) (runs : List (Nat × Nat)), (∀ id ∈ l, id < 4294967296) →
    (expandRuns runs).length + l.length < 4294967296 →
    expandRuns (l.foldl pushRun runs) = expandRuns runs ++ l
  | [], runs, _, _ => by simp
  | id :: l, runs, hlt, hlen => by
    rw [List.length_cons, ← Nat.add_assoc] at hlen
    have h1 := expandRuns_pushRun runs id (hlt id List.mem_cons_self)
      (Nat.lt_of_le_of_lt (Nat.add_le_add_right (Nat.le_add_right _ _) 1) hlen)
    rw [List.foldl_cons, expandRuns_foldl l _ (fun x hx => hlt x (List.mem_cons_of_mem _ hx))
      (by rwa [h1, List.length_append, List.length_singleton, Nat.add_right_comm]), h1, List.append_assoc]
    rfl

/-- does the sender answer an unsettled disposition with state `st` for delivery `id` with a
    settling one?  (the link is in rcv-settle-mode second and the state is not "in progress") -/
def wantsEcho (st : DS) (s : St) (id : Nat) : Bool :=
  match lookup s.byId id with
  | some e => isSecond s e.link && !st.inProgress
  | none => false

/-- the ids echoed by `updateIds`, following the evolving state -/
def echoedIds (st : DS) : List Nat → St → List Nat
  | [], _ => []
  | id :: ids, s =>
    match lookup s.byId id with
    | none => echoedIds st ids s
    | some e =>
      if (updOne st s id e).2.2 then id :: echoedIds st ids (updOne st s id e).1
      else echoedIds st ids (updOne st s id e).1

theorem echoedIds_length_le (st : DS) : ∀ (ids : List Nat) (s : St), (echoedIds st ids s).length ≤ ids.length := by
  intro ids
  induction ids with
  | nil => intro s; exact Nat.le_refl _
  | cons id ids ih =>
    intro s
    unfold echoedIds
    cases lookup s.byId id with
    | none => exact Nat.le_succ_of_le (ih s)
    | some e =>
      simp only
      split
      · exact Nat.succ_le_succ (ih _)
      · exact Nat.le_succ_of_le (ih _)

-- `sec` is the table of settle modes, which no step of the walk changes: `drop` must not depend on the state
theorem updateIds_eq_sweep (st : DS) (sec : List Bool) : ∀ (ids : List Nat) (s : St) (runs : List (Nat × Nat)),
    s.second = sec →
    updateIds st ids s runs =
      ((sweep st st.terminal (fun e => sec.getD e.link false && !st.inProgress) ids s).1,
       (sweep st st.terminal (fun e => sec.getD e.link false && !st.inProgress) ids s).2,
       (echoedIds st ids s).foldl pushRun runs)
  | [], _, _, _ => rfl
  | id :: ids, s, runs, hs => by
    rw [updateIds, sweep, echoedIds]
    cases h : lookup s.byId id with
    | none => exact updateIds_eq_sweep st sec ids s runs hs
    | some e =>
      cases (lookup_some_mem _ _ _ h).2
      have h2 : isSecond s e.link = sec.getD e.link false := by rw [isSecond, hs]
      simp only [updOne_eq_touch, h2]
      rw [updateIds_eq_sweep st sec ids _ _ (show (touch st _ _ s e).1.second = sec from hs)]
      cases (sec.getD e.link false && !st.inProgress) <;> rfl

theorem wantsEcho_touch_ne (st st' : DS) (fin drop : Bool) (s : St) (e : Entry) (id : Nat) (h : id ≠ e.id) :
    wantsEcho st (touch st' fin drop s e).1 id = wantsEcho st s id := by
  have : lookup (touch st' fin drop s e).1.byId id = lookup s.byId id := by
    cases drop
    · rfl
    · exact lookup_removeId_ne _ _ _ h
  unfold wantsEcho
  rw [this]
  rfl

/-- with distinct ids the evolving state answers like the initial one -/
theorem echoedIds_eq_filter (st : DS) : ∀ (ids : List Nat) (s : St), ids.Nodup →
    echoedIds st ids s = ids.filter (wantsEcho st s)
  | [], _, _ => rfl
  | id :: ids, s, hnd => by
    obtain ⟨hnot, hnd'⟩ := List.nodup_cons.mp hnd
    rw [echoedIds, List.filter_cons]
    cases h : lookup s.byId id with
    | none => simp only [wantsEcho, h, Bool.false_eq_true, if_false]; exact echoedIds_eq_filter st ids s hnd'
    | some e =>
      cases (lookup_some_mem _ _ _ h).2
      have hrest : ids.filter (wantsEcho st (touch st st.terminal (isSecond s e.link && !st.inProgress) s e).1) =
          ids.filter (wantsEcho st s) :=
        List.filter_congr fun x hx => wantsEcho_touch_ne st st _ _ s e x fun heq => hnot (heq ▸ hx)
      simp only [updOne_eq_touch, wantsEcho, h, echoedIds_eq_filter st ids _ hnd', hrest]

end Amqp.Settle
