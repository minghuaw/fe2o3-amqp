/-
  The two cuts made before the session numbers its transfers (`split_transfer`, `link_transfers`), each
  by cases: the transfer as it is, or a first piece, middle pieces and a last one.
-/
import Amqp.LinkSplit
import Theorems.Lemmas.Frame

namespace Amqp.Frame
open Amqp.Gen.FrameK

/-- the performative length a piece is measured with -/
def SLens.of (l : SLens) : SKind → Nat
  | .whole => l.whole
  | .first => l.first
  | .cont => l.rest
  | .last => l.rest

def piecesPayload (ps : List (SKind × Bytes)) : Bytes := (ps.map (·.2)).flatten

/-- the cut happened (neither "fits as it is" nor "performative alone fills a frame") -/
def IsCut (B : Nat) (l : SLens) (payload : Bytes) : Prop :=
  split_transfer.cond_if_1 B payload.length l.whole = false ∧ split_transfer.cond_if_2 l.first B l.rest = false

theorem sessionSplit_cases (B : Nat) (l : SLens) (payload : Bytes) :
    sessionSplit B l payload = [(.whole, payload)] ∨
    (IsCut B l payload ∧ ∃ (c : Bytes) (cs : List Bytes) (r : Bytes),
      sessionSplit B l payload = (.first, c) :: cs.map (fun x => (SKind.cont, x)) ++ [(.last, r)] ∧
      c ++ (cs.flatten ++ r) = payload ∧ l.first + c.length ≤ B ∧ (∀ x ∈ cs, l.rest + x.length = B) ∧
      l.rest + r.length ≤ B) := by
  unfold sessionSplit
  by_cases h1 : split_transfer.cond_if_1 B payload.length l.whole = true
  · exact .inl (if_pos h1)
  · by_cases h2 : split_transfer.cond_if_2 l.first B l.rest = true
    · exact .inl (by rw [if_neg h1, if_pos h2])
    · right
      have hlt : l.first < B ∧ l.rest < B := by simpa [split_transfer.cond_if_2] using h2
      have hk := pieces_length (Nat.sub_pos_of_lt hlt.2) payload.length
        (payload.drop (Nat.min (B - l.first) payload.length)) (by rw [List.length_drop]; exact Nat.sub_le _ _)
      have hfl := pieces_flatten (B - l.rest) payload.length (payload.drop (Nat.min (B - l.first) payload.length))
      simp only [h1, h2, if_false, Bool.false_eq_true, split_transfer.arg_split_to_0, psub64,
        sMiddle_eq (Nat.le_of_lt hlt.2)]
      refine ⟨⟨by simpa using h1, by simpa using h2⟩, _, _, _, rfl, by rw [hfl, List.take_append_drop], ?_,
        fun x hx => ?_, Nat.add_le_of_le_sub' (Nat.le_of_lt hlt.2) hk.2⟩
      · exact Nat.add_le_of_le_sub' (Nat.le_of_lt hlt.1)
          (Nat.le_trans (List.length_take_le _ _) (Nat.min_le_left _ _))
      · rw [hk.1 x hx]; exact Nat.add_sub_cancel' (Nat.le_of_lt hlt.2)

end Amqp.Frame

namespace Amqp.LinkSplit
open Amqp.Gen.LinkSplit Amqp.Frame

theorem lMiddle_eq (m : Nat) : ∀ (fuel : Nat) (rest : Bytes), lMiddle m fuel rest = pieces m fuel rest
  | 0, _ => rfl
  | fuel + 1, rest => by
    simp only [lMiddle, pieces, link_split.cond_while_0, link_split.arg_split_to_1, gt_iff_lt, decide_eq_true_eq,
      lMiddle_eq m fuel]

theorem linkSplitWith_cases (cleared : Bool) (m : Nat) (payload : Bytes) :
    linkSplitWith cleared m payload = [⟨true, false, payload⟩] ∨
    ∃ (c : Bytes) (cs : List Bytes) (r : Bytes),
      linkSplitWith cleared m payload =
        ⟨true, true, c⟩ :: cs.map (fun x => ⟨false, true, x⟩) ++ [⟨!(cleared || !cs.isEmpty), false, r⟩] ∧
      c ++ (cs.flatten ++ r) = payload := by
  unfold linkSplitWith
  split
  · exact .inl rfl
  · refine .inr ⟨_, _, _, rfl, ?_⟩
    rw [lMiddle_eq, pieces_flatten, List.take_append_drop]

theorem frameCut_cases (B : Nat) (lens : Piece → SLens) (p : Piece) :
    frameCut B lens p = [⟨p.hasTag, p.more, p.payload⟩] ∨
    ∃ (c : Bytes) (cs : List Bytes) (r : Bytes),
      frameCut B lens p = ⟨p.hasTag, true, c⟩ :: cs.map (fun x => ⟨false, true, x⟩) ++ [⟨false, p.more, r⟩] ∧
      c ++ (cs.flatten ++ r) = p.payload := by
  unfold frameCut
  rcases sessionSplit_cases B (lens p) p.payload with h | ⟨_, c, cs, r, h, hp, _⟩
  · exact .inl (by rw [h]; rfl)
  · exact .inr ⟨c, cs, r, by rw [h]; simp [pieceOf, List.map_map, Function.comp_def], hp⟩

end Amqp.LinkSplit
