/-
  What a disposition does to the sender's tables: the model's two walks over the ids named (`settleIds`,
  `updateIds`) are one walk `sweep` of one action `touch`; `sweep_spec` describes the tables after it,
  `sweep_count` gives "at most once" with no assumption on the tables.
-/
import Amqp.Settle
import Theorems.Lemmas.List

namespace Amqp.Settle

theorem mem_removeId (byId : List Entry) (id : Nat) (e : Entry) :
    e ∈ removeId byId id ↔ e ∈ byId ∧ e.id ≠ id := by
  simp [removeId]

theorem mem_removeTag (u : List (Nat × Nat)) (lt x : Nat × Nat) :
    x ∈ removeTag u lt ↔ x ∈ u ∧ x ≠ lt := by
  simp [removeTag]

theorem removeTag_eq_self (u : List (Nat × Nat)) (lt : Nat × Nat) (h : lt ∉ u) : removeTag u lt = u := by
  unfold removeTag
  rw [List.filter_eq_self]
  intro x hx
  simpa using fun hxl : x = lt => h (hxl ▸ hx)

theorem lookup_some_mem (byId : List Entry) (id : Nat) (e : Entry) (h : lookup byId id = some e) :
    e ∈ byId ∧ e.id = id :=
  List.find?_key_some h

theorem lookup_eq_none_iff (byId : List Entry) (id : Nat) : lookup byId id = none ↔ ∀ e ∈ byId, e.id ≠ id :=
  List.find?_key_eq_none

theorem lookup_removeId_self (byId : List Entry) (id : Nat) : lookup (removeId byId id) id = none :=
  (lookup_eq_none_iff _ _).mpr fun _ he => ((mem_removeId _ _ _).mp he).2

theorem lookup_removeId_ne (byId : List Entry) (id id' : Nat) (h : id' ≠ id) :
    lookup (removeId byId id) id' = lookup byId id' :=
  List.find?_key_filter_ne Entry.id h byId

/-- ids are unique in the table -/
def IdsNodup (byId : List Entry) : Prop := (byId.map (·.id)).Nodup

theorem lookup_of_mem (byId : List Entry) (e : Entry) (hn : IdsNodup byId) (h : e ∈ byId) :
    lookup byId e.id = some e := by
  cases hl : lookup byId e.id with
  | none => exact absurd rfl ((lookup_eq_none_iff _ _).mp hl e h)
  | some e' =>
    obtain ⟨he', hid⟩ := lookup_some_mem _ _ _ hl
    rw [List.Nodup.map_inj hn he' h hid]

theorem idsNodup_removeId (byId : List Entry) (id : Nat) (h : IdsNodup byId) : IdsNodup (removeId byId id) :=
  List.Nodup.sublist (List.Sublist.map _ List.filter_sublist) h

/-- different deliveries have different (link, tag) -/
def TagsInj (byId : List Entry) : Prop :=
  ∀ e ∈ byId, ∀ e' ∈ byId, e.link = e'.link → e.tag = e'.tag → e = e'

/-- What a disposition does to one delivery.  `fin` (it settles, or its state is terminal): the link lets
    go and the send completes if still held; `drop` (it settles, or is echoed): the session forgets it. -/
def touch (st : DS) (fin drop : Bool) (s : St) (e : Entry) : St × List Out :=
  ({ s with byId := if drop then removeId s.byId e.id else s.byId,
            unsettled := if fin then removeTag s.unsettled (e.link, e.tag) else s.unsettled },
   if fin && s.unsettled.contains (e.link, e.tag) then [.resolved e.link e.tag st] else [])

def sweep (st : DS) (fin : Bool) (drop : Entry → Bool) : List Nat → St → St × List Out
  | [], s => (s, [])
  | id :: ids, s =>
    match lookup s.byId id with
    | none => sweep st fin drop ids s
    | some e =>
      ((sweep st fin drop ids (touch st fin (drop e) s e).1).1,
       (touch st fin (drop e) s e).2 ++ (sweep st fin drop ids (touch st fin (drop e) s e).1).2)

theorem mem_touch_byId (st : DS) (fin drop : Bool) (s : St) (e x : Entry) :
    x ∈ (touch st fin drop s e).1.byId ↔ x ∈ s.byId ∧ ¬ (x.id = e.id ∧ drop = true) := by
  cases drop
  · exact ⟨fun h => ⟨h, fun h' => nomatch h'.2⟩, And.left⟩
  · exact (mem_removeId _ _ _).trans (and_congr_right fun _ => ⟨fun h h' => h h'.1, fun h h' => h ⟨h', rfl⟩⟩)

theorem mem_touch_unsettled (st : DS) (fin drop : Bool) (s : St) (e : Entry) (x : Nat × Nat) :
    x ∈ (touch st fin drop s e).1.unsettled ↔ x ∈ s.unsettled ∧ ¬ (fin = true ∧ (e.link, e.tag) = x) := by
  cases fin
  · exact ⟨fun h => ⟨h, fun h' => nomatch h'.1⟩, And.left⟩
  · exact (mem_removeTag _ _ _).trans (and_congr_right fun _ => ⟨fun h h' => h h'.2.symm, fun h h' => h ⟨rfl, h'.symm⟩⟩)

theorem mem_touch_out (st : DS) (fin drop : Bool) (s : St) (e : Entry) (o : Out) :
    o ∈ (touch st fin drop s e).2 ↔
      fin = true ∧ (e.link, e.tag) ∈ s.unsettled ∧ o = .resolved e.link e.tag st := by
  by_cases h : (fin && s.unsettled.contains (e.link, e.tag)) = true
  · simp only [touch, h, if_true, List.mem_singleton]
    rw [Bool.and_eq_true, List.contains_iff_mem] at h
    exact ⟨fun ho => ⟨h.1, h.2, ho⟩, fun ho => ho.2.2⟩
  · simp only [touch, h, Bool.false_eq_true, if_false]
    rw [Bool.and_eq_true, List.contains_iff_mem] at h
    exact ⟨fun ho => (nomatch ho), fun ho => (h ⟨ho.1, ho.2.1⟩).elim⟩

theorem idsNodup_touch (st : DS) (fin drop : Bool) (s : St) (e : Entry) (h : IdsNodup s.byId) :
    IdsNodup (touch st fin drop s e).1.byId := by
  cases drop
  · exact h
  · exact idsNodup_removeId _ _ h

/-- The tables `r` a disposition leaves, in terms of the tables `s` it found and the set `E` of
    deliveries it names. -/
structure Swept (st : DS) (fin : Bool) (drop : Entry → Bool) (E : Entry → Prop) (s : St) (r : St × List Out) : Prop where
  byId : ∀ e, e ∈ r.1.byId ↔ e ∈ s.byId ∧ ¬ (E e ∧ drop e = true)
  unsettled : ∀ x, x ∈ r.1.unsettled ↔ x ∈ s.unsettled ∧ ¬ (fin = true ∧ ∃ e, E e ∧ (e.link, e.tag) = x)
  out : ∀ l t st', Out.resolved l t st' ∈ r.2 ↔
    fin = true ∧ ∃ e, E e ∧ (e.link, e.tag) ∈ s.unsettled ∧ Out.resolved l t st' = .resolved e.link e.tag st
  ids : IdsNodup r.1.byId

section
variable {st : DS} {fin : Bool} {drop : Entry → Bool} {E : Entry → Prop} {s : St} {r : St × List Out}
  (sp : Swept st fin drop E s r) {e : Entry} (hE : E e)
include sp hE

theorem Swept.gone (he : e ∈ s.byId) (hn : IdsNodup s.byId) (hd : drop e = true) : lookup r.1.byId e.id = none :=
  (lookup_eq_none_iff _ _).mpr fun e' he' hid => by
    obtain ⟨he's, hnot⟩ := (sp.byId e').mp he'
    cases List.Nodup.map_inj hn he's he hid
    exact hnot ⟨hE, hd⟩

theorem Swept.let_go (hf : fin = true) : (e.link, e.tag) ∉ r.1.unsettled :=
  fun hx => ((sp.unsettled _).mp hx).2 ⟨hf, e, hE, rfl⟩

end

theorem sweep_spec (st : DS) (fin : Bool) (drop : Entry → Bool) (ids : List Nat) (s : St) (hn : IdsNodup s.byId) :
    Swept st fin drop (fun e => e ∈ s.byId ∧ e.id ∈ ids) s (sweep st fin drop ids s) := by
  fun_induction sweep st fin drop ids s with
  | case1 s => exact ⟨by simp, by simp, by simp, hn⟩
  | case2 id ids s h ih =>
    have : (fun e => e ∈ s.byId ∧ e.id ∈ id :: ids) = fun e => e ∈ s.byId ∧ e.id ∈ ids :=
      funext fun e => propext (and_congr_right fun he => by simp [(lookup_eq_none_iff _ _).mp h e he])
    rw [this]
    exact ih hn
  | case3 id ids s e0 h ih =>
    obtain ⟨he0, hid0⟩ := lookup_some_mem _ _ _ h
    have uniq : ∀ e ∈ s.byId, e.id = id → e = e0 := fun e he hi => List.Nodup.map_inj hn he he0 (hi.trans hid0.symm)
    obtain ⟨a, b, c, d⟩ := ih (idsNodup_touch st fin (drop e0) s e0 hn)
    -- the deliveries named: the one entry `e0` with this id, and those the rest of the walk finds, in a
    -- state that differs from `s` only in what `e0` lost
    have named : ∀ e, e ∈ s.byId ∧ e.id ∈ id :: ids ↔ e = e0 ∨ e ∈ (touch st fin (drop e0) s e0).1.byId ∧ e.id ∈ ids := by
      intro e
      rw [mem_touch_byId, List.mem_cons]
      constructor
      · rintro ⟨he, hm⟩
        by_cases hi : e.id = id
        · exact Or.inl (uniq e he hi)
        · exact Or.inr ⟨⟨he, fun h => hi (h.1.trans hid0)⟩, hm.resolve_left hi⟩
      · rintro (rfl | ⟨⟨he, _⟩, hm⟩)
        · exact ⟨he0, Or.inl hid0⟩
        · exact ⟨he, Or.inr hm⟩
    simp only [named]
    refine ⟨fun e => ?_, fun x => ?_, fun l t st' => ?_, d⟩
    · refine (a e).trans ((and_congr_left' (mem_touch_byId ..)).trans (and_assoc.trans (and_congr_right fun he => ?_)))
      rw [or_and_right, not_or]
      exact and_congr_left' (not_congr ⟨fun h => have h0 := uniq e he (h.1.trans hid0); ⟨h0, h0 ▸ h.2⟩,
        fun h => ⟨h.1 ▸ rfl, h.1 ▸ h.2⟩⟩)
    · rw [b, mem_touch_unsettled]
      simp only [or_and_right, exists_or, exists_eq_left, and_or_left, not_or, and_assoc]
    · rw [List.mem_append, mem_touch_out, c]
      simp only [or_and_right, exists_or, exists_eq_left, ← and_or_left]
      refine and_congr_right fun hf => ⟨Or.imp_right fun ⟨e, he, hh, ho⟩ => ⟨e, he, ((mem_touch_unsettled ..).mp hh).1, ho⟩,
        fun h => h.elim Or.inl fun ⟨e, he, hh, ho⟩ => ?_⟩
      -- an entry with the tag of `e0` completes with `e0`, whichever of the two it is
      by_cases ht : (e0.link, e0.tag) = (e.link, e.tag)
      · rw [Prod.mk.injEq] at ht
        exact Or.inl ⟨ht.1 ▸ ht.2 ▸ hh, by rw [ho, ht.1, ht.2]⟩
      · exact Or.inr ⟨e, he, (mem_touch_unsettled ..).mpr ⟨hh, fun h => ht h.2⟩, ho⟩

theorem settleIds_nil (st : DS) (s : St) : settleIds st [] s = (s, []) := rfl

theorem settleIds_eq_sweep (st : DS) : ∀ (ids : List Nat) (s : St),
    settleIds st ids s = sweep st true (fun _ => true) ids s
  | [], _ => rfl
  | id :: ids, s => by
    rw [settleIds, sweep]
    cases h : lookup s.byId id with
    | none => exact settleIds_eq_sweep st ids s
    | some e =>
      cases (lookup_some_mem _ _ _ h).2
      simp only [touch, Bool.true_and, if_true]
      cases hc : s.unsettled.contains (e.link, e.tag)
      · rw [removeTag_eq_self _ _ (by simpa using hc), settleIds_eq_sweep]
        rfl
      · rw [settleIds_eq_sweep]
        rfl

theorem terminal_not_inProgress (st : DS) (h : st.terminal = true) : st.inProgress = false := by
  cases st <;> simp_all [DS.terminal, DS.inProgress]

theorem inProgress_or_terminal (st : DS) : st.inProgress = true ∨ st.terminal = true := by
  cases st <;> simp [DS.terminal, DS.inProgress]

theorem updOne_eq_touch (st : DS) (s : St) (e : Entry) :
    updOne st s e.id e =
      ((touch st st.terminal (isSecond s e.link && !st.inProgress) s e).1,
       (touch st st.terminal (isSecond s e.link && !st.inProgress) s e).2,
       isSecond s e.link && !st.inProgress) := by
  unfold updOne touch
  cases st.terminal
  · cases (isSecond s e.link && !st.inProgress) <;> rfl
  · cases hc : s.unsettled.contains (e.link, e.tag)
    · rw [removeTag_eq_self _ _ (by simpa using hc)]
      cases (isSecond s e.link && !st.inProgress) <;> rfl
    · cases (isSecond s e.link && !st.inProgress) <;> rfl

theorem updateIds_nil (st : DS) (s : St) (runs : List (Nat × Nat)) : updateIds st [] s runs = (s, [], runs) := rfl

def isRes (l t : Nat) : Out → Bool
  | .resolved l' t' _ => l' == l && t' == t
  | _ => false

/-- how often the send future of (l, t) completes in a list of outputs -/
def countRes (l t : Nat) (os : List Out) : Nat := (os.filter (isRes l t)).length

theorem countRes_nil (l t : Nat) : countRes l t [] = 0 := rfl

theorem countRes_append (l t : Nat) (a b : List Out) : countRes l t (a ++ b) = countRes l t a + countRes l t b := by
  simp [countRes, List.filter_append]

theorem countRes_pos_mem (l t : Nat) (os : List Out) (h : 0 < countRes l t os) :
    ∃ st, Out.resolved l t st ∈ os := by
  obtain ⟨o, ho⟩ := List.exists_mem_of_length_pos h
  obtain ⟨hm, hp⟩ := List.mem_filter.mp ho
  cases o with
  | resolved l' t' st => simp [isRes] at hp; exact ⟨st, by rw [← hp.1, ← hp.2]; exact hm⟩
  | echo _ _ _ => simp [isRes] at hp

/-- is (l, t) held by its link? as a number -/
def heldN (s : St) (l t : Nat) : Nat := if (l, t) ∈ s.unsettled then 1 else 0

theorem heldN_le (s s' : St) (l t : Nat) (h : (l, t) ∈ s'.unsettled → (l, t) ∈ s.unsettled) :
    heldN s' l t ≤ heldN s l t := by
  unfold heldN
  by_cases hm : (l, t) ∈ s'.unsettled
  · simp [hm, h hm]
  · simp [hm]

/-- a completion uses up the held entry -/
theorem touch_count (st : DS) (fin drop : Bool) (s : St) (e : Entry) (l t : Nat) :
    countRes l t (touch st fin drop s e).2 + heldN (touch st fin drop s e).1 l t ≤ heldN s l t := by
  have hle := heldN_le s (touch st fin drop s e).1 l t fun h => ((mem_touch_unsettled ..).mp h).1
  by_cases hpos : 0 < countRes l t (touch st fin drop s e).2
  · obtain ⟨st', ho⟩ := countRes_pos_mem l t _ hpos
    obtain ⟨hf, hh, heq⟩ := (mem_touch_out ..).mp ho
    cases heq
    have h0 : heldN (touch st fin drop s e).1 e.link e.tag = 0 := by
      simp [heldN, mem_touch_unsettled, hf]
    have h1 : heldN s e.link e.tag = 1 := by simp [heldN, hh]
    have h2 : countRes e.link e.tag (touch st fin drop s e).2 ≤ (touch st fin drop s e).2.length :=
      List.length_filter_le ..
    have h3 : (touch st fin drop s e).2.length ≤ 1 := by simp only [touch]; split <;> simp
    omega
  · omega

theorem sweep_count (st : DS) (fin : Bool) (drop : Entry → Bool) (l t : Nat) (ids : List Nat) (s : St) :
    countRes l t (sweep st fin drop ids s).2 + heldN (sweep st fin drop ids s).1 l t ≤ heldN s l t := by
  fun_induction sweep st fin drop ids s with
  | case1 s => exact Nat.le_of_eq (Nat.zero_add _)
  | case2 id ids s h ih => exact ih
  | case3 id ids s e h ih =>
    have h1 := touch_count st fin (drop e) s e l t
    simp only [countRes_append]
    omega

end Amqp.Settle
