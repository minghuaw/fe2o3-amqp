import Amqp.U32

/-!
  Serial-number arithmetic on `u32` (RFC 1982).  `wsub32 a b` is the one number below 2^32 that, added to
  `b`, gives `a` modulo 2^32 (`wsub32_add_mod`, `wsub32_lt`, `wsub32_eq_of_add_mod`); everything else
  follows from that without unfolding `wsub32` again.
-/
namespace Amqp

theorem wadd32_lt (a b : Nat) : wadd32 a b < 4294967296 := Nat.mod_lt _ (by decide)

theorem wadd32_wadd32 (a x y : Nat) : wadd32 (wadd32 a x) y = wadd32 a (x + y) := by
  unfold wadd32; rw [Nat.mod_add_mod, Nat.add_assoc]

theorem wsub32_lt (a b : Nat) : wsub32 a b < 4294967296 := by
  unfold wsub32
  split
  · exact Nat.lt_of_le_of_lt (Nat.sub_le _ _) (Nat.mod_lt a (by decide))
  · exact Nat.sub_lt (by decide) (Nat.sub_pos_of_lt (Nat.lt_of_not_le ‹_›))

theorem wsub32_add_mod (a b : Nat) : (wsub32 a b + b) % 4294967296 = a % 4294967296 := by
  rw [← Nat.add_mod_mod, wsub32]
  have hx := Nat.mod_lt a (show 0 < 4294967296 by decide)
  have hy := Nat.mod_lt b (show 0 < 4294967296 by decide)
  generalize a % 4294967296 = x, b % 4294967296 = y at *
  split
  · rw [Nat.sub_add_cancel ‹_›, Nat.mod_eq_of_lt hx]
  · have hle : x ≤ y := Nat.le_of_lt (Nat.lt_of_not_le ‹_›)
    rw [← Nat.sub_add_comm (Nat.le_trans (Nat.sub_le _ _) (Nat.le_of_lt hy)),
      Nat.add_sub_assoc (Nat.sub_le _ _), Nat.sub_sub_self hle, Nat.add_mod_left, Nat.mod_eq_of_lt hx]

theorem le_of_add_mod_eq {N x y b : Nat} (hx : x < N) (h : (x + b) % N = (y + b) % N) : x ≤ y := by
  have := Nat.sub_mod_eq_zero_of_mod_eq h
  rw [Nat.add_sub_add_right, Nat.mod_eq_of_lt (Nat.lt_of_le_of_lt (Nat.sub_le _ _) hx)] at this
  exact Nat.le_of_sub_eq_zero this

theorem wsub32_eq_of_add_mod {a b d : Nat} (hd : d < 4294967296)
    (h : (d + b) % 4294967296 = a % 4294967296) : wsub32 a b = d :=
  have h1 := (wsub32_add_mod a b).trans h.symm
  Nat.le_antisymm (le_of_add_mod_eq (wsub32_lt a b) h1) (le_of_add_mod_eq hd h1.symm)

/-- the form `Amqp/U32.lean` avoids in the definition -/
theorem wsub32_spec (a b : Nat) :
    wsub32 a b = (a % 4294967296 + 4294967296 - b % 4294967296) % 4294967296 :=
  wsub32_eq_of_add_mod (Nat.mod_lt _ (by decide)) (by
    have := Nat.mod_lt b (show 0 < 4294967296 by decide)
    rw [Nat.mod_add_mod, ← Nat.add_mod_mod, Nat.sub_add_cancel (Nat.le_trans (Nat.le_of_lt this) (Nat.le_add_left _ _)), Nat.add_mod_right, Nat.mod_mod])

theorem wsub32_self (a : Nat) : wsub32 a a = 0 :=
  wsub32_eq_of_add_mod (by decide) (by rw [Nat.zero_add])

theorem wadd32_wsub32 (a b : Nat) (hb : b < 4294967296) : wadd32 a (wsub32 b a) = b := by
  rw [wadd32, Nat.add_comm, wsub32_add_mod, Nat.mod_eq_of_lt hb]

theorem wsub32_wadd32_add (a b k : Nat) (h : wsub32 b a + k < 4294967296) :
    wsub32 (wadd32 b k) a = wsub32 b a + k :=
  wsub32_eq_of_add_mod h (by
    rw [wadd32, Nat.mod_mod, Nat.add_right_comm, Nat.add_mod, wsub32_add_mod, ← Nat.add_mod])

theorem wsub32_wadd32 (a o : Nat) (ho : o < 4294967296) : wsub32 (wadd32 a o) a = o := by
  have := wsub32_wadd32_add a a o (by rwa [wsub32_self, Nat.zero_add])
  rwa [wsub32_self, Nat.zero_add] at this

theorem sdist_self (a : Nat) : sdist a a = 0 := wsub32_self a

theorem sdist_add (a b k : Nat) (h : sdist a b + k < 4294967296) :
    sdist a (wadd32 b k) = sdist a b + k := wsub32_wadd32_add a b k h

/-! Both flow-control layers (the session's transfer-ids against the peer's incoming window, the link's
  delivery-count against its credit) keep "what is left, counted from here, fits the window" and use it
  in these two steps. -/

theorem window_step {base len x k : Nat} (hlen : len < 4294967296) (hk : 0 < k) (hfit : sdist base x + k ≤ len) :
    inWindow base len x ∧ sdist base (wadd32 x 1) + (k - 1) ≤ len := by
  rw [sdist_add base x 1 (Nat.lt_of_le_of_lt (Nat.le_trans (Nat.add_le_add_left hk _) hfit) hlen),
    Nat.add_assoc, Nat.add_sub_cancel' hk]
  exact ⟨Nat.lt_of_lt_of_le (Nat.lt_add_of_pos_right hk) hfit, hfit⟩

theorem window_rest (a d : Nat) : a - d = 0 ∨ d + (a - d) ≤ a :=
  (Nat.le_total a d).elim (fun h => .inl (Nat.sub_eq_zero_of_le h)) fun h => .inr (Nat.le_of_eq (Nat.add_sub_cancel' h))

/-- shared by the codec's and the frame header's big-endian round trips -/
theorem be32_digits (n : Nat) (h : n < 4294967296) :
    n / 16777216 % 256 * 16777216 + n / 65536 % 256 * 65536 + n / 256 % 256 * 256 + n % 256 = n := by
  have h1 := Nat.div_add_mod' n 256
  have h2 := Nat.div_add_mod' (n / 256) 256
  have h3 := Nat.div_add_mod' (n / 65536) 256
  rw [show n / 256 / 256 = n / 65536 from Nat.div_div_eq_div_mul n 256 256] at h2
  rw [show n / 65536 / 256 = n / 16777216 from Nat.div_div_eq_div_mul n 65536 256] at h3
  rw [Nat.mod_eq_of_lt (Nat.div_lt_of_lt_mul h : n / 16777216 < 256)]
  -- `n = ((a * 256 + b) * 256 + c) * 256 + d`, multiplied out
  conv => rhs; rw [← h1, ← h2, ← h3]
  simp only [Nat.add_mul, Nat.mul_assoc, Nat.reduceMul]

end Amqp
