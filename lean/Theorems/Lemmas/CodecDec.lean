import Theorems.Lemmas.Codec

/-! The decoder on *arbitrary* input (C04), read off one pass over `dec` (`dec_sat`): the `mass` of what it
    returns is at most 17 × (bytes consumed + body-less array elements allowed), the value is nested no deeper
    than the depth given, what is left is a suffix of the input, and the model's fuel does not run out.
    Where a step of the pass splits along a model function, `fun_cases` names its arms `caseN` by position. -/
namespace Amqp.Codec
open Amqp.Gen.Codes

def IsSuffix (a b : Bytes) : Prop := ∃ pre, b = pre ++ a

theorem IsSuffix.refl (a : Bytes) : IsSuffix a a := ⟨[], rfl⟩

theorem IsSuffix.trans {a b c : Bytes} (h1 : IsSuffix a b) (h2 : IsSuffix b c) : IsSuffix a c := by
  obtain ⟨p, rfl⟩ := h1; obtain ⟨q, rfl⟩ := h2; exact ⟨q ++ p, by simp⟩

theorem IsSuffix.cons (b : UInt8) (r : Bytes) : IsSuffix r (b :: r) := ⟨[b], rfl⟩

theorem IsSuffix.len {a b : Bytes} (h : IsSuffix a b) : a.length ≤ b.length := by
  obtain ⟨p, rfl⟩ := h; simp

mutual
  /-- what a value occupies: one unit per node plus its payload bytes -/
  def mass : Value → Nat
    | .null => 1
    | .bool _ => 1
    | .fixed _ bs => 1 + bs.length
    | .var _ bs => 1 + bs.length
    | .list vs => 1 + massAll vs
    | .map vs => 1 + massAll vs
    | .array vs => 1 + massAll vs
    | .described d v => 1 + mass d + mass v
  def massAll : List Value → Nat
    | [] => 0
    | v :: vs => mass v + massAll vs
end

theorem nestAll_mapInsert {d : Nat} {k v : Value} (hk : nest k ≤ d) (hv : nest v ≤ d) (acc : List (Value × Value))
    (h : nestAll (flattenPairs acc) ≤ d) : nestAll (flattenPairs (mapInsert acc k v)) ≤ d := by
  fun_induction mapInsert acc k v with
  | case1 => exact Nat.max_le.2 ⟨hk, Nat.max_le.2 ⟨hv, Nat.zero_le _⟩⟩
  | case2 =>
    simp only [flattenPairs, nestAll, Nat.max_le] at h ⊢
    exact ⟨h.1, hv, h.2.2⟩
  | case3 _ _ _ _ _ _ ih =>
    simp only [flattenPairs, nestAll, Nat.max_le] at h ⊢
    exact ⟨h.1, h.2.1, ih hk hv h.2.2⟩

theorem nestAll_insertAll {d : Nat} (vs : List Value) (acc : List (Value × Value))
    (ha : nestAll (flattenPairs acc) ≤ d) (hv : nestAll vs ≤ d) : nestAll (flattenPairs (insertAll acc vs)) ≤ d := by
  fun_induction insertAll acc vs with
  | case1 acc k v rest ih =>
    simp only [nestAll, Nat.max_le] at hv
    exact ih (nestAll_mapInsert hv.1 hv.2.1 acc ha) hv.2.2
  | case2 => exact ha

theorem massAll_mapInsert (acc : List (Value × Value)) (k v : Value) :
    massAll (flattenPairs (mapInsert acc k v)) ≤ massAll (flattenPairs acc) + mass k + mass v := by
  fun_induction mapInsert acc k v
  all_goals
    simp only [flattenPairs, massAll]
    omega

theorem massAll_insertAll (vs : List Value) (acc : List (Value × Value)) :
    massAll (flattenPairs (insertAll acc vs)) ≤ massAll (flattenPairs acc) + massAll vs := by
  fun_induction insertAll acc vs with
  | case1 acc k v rest ih =>
    have := massAll_mapInsert acc k v
    simp only [massAll]
    omega
  | case2 => exact Nat.le_add_right _ _

section
variable {α : Type} {lo : Prop} {Q : α → Prop}

/-- `x` returns only results that satisfy `Q`, and if `lo` holds (the budget is large enough) it does
    not fail for want of fuel -/
def Sat (lo : Prop) (Q : α → Prop) (x : Res α) : Prop :=
  match x with
  | .ok a => Q a
  | .error e => lo → e ≠ .fuel

theorem Sat.ok {x : Res α} (h : Sat lo Q x) {a : α} (hx : x = .ok a) : Q a := by
  subst hx; exact h

theorem Sat.nofuel {x : Res α} (h : Sat lo Q x) (hlo : lo) : x ≠ .error .fuel := by
  intro hx; subst hx; exact h hlo rfl

theorem Sat.err {e : DErr} (h : e ≠ .fuel := by decide) : Sat lo Q (.error e) :=
  fun _ => h

theorem Sat.bind {β : Type} {lo' : Prop} {x : Res α} {f : α → Res β} {R : β → Prop}
    (hx : Sat lo' Q x) (hlo : lo → lo') (hf : ∀ a, x = .ok a → Q a → Sat lo R (f a)) : Sat lo R (x >>= f) := by
  cases x with
  | error e => exact fun h => hx (hlo h)
  | ok a => exact hf a rfl hx

/-- a guard of the decoder: the error it raises is never the model's own -/
theorem Sat.guard {p : Prop} [Decidable p] {e : DErr} {x : Res α} (hx : ¬ p → Sat lo Q x)
    (he : e ≠ .fuel := by decide) : Sat lo Q (if p then .error e else x) :=
  iteInduction (fun _ => .err he) hx

/-- `Sat` for a step that may not apply (`decScalar` answers `none`) -/
def OSat (lo : Prop) (Q : α → Prop) : Option (Res α) → Prop
  | some x => Sat lo Q x
  | none => True

end

variable (lo : Prop)

theorem next?_sat (bs : Bytes) : Sat lo (fun p => bs = p.1 :: p.2) (next? bs) := by
  cases bs with
  | nil => exact .err
  | cons b r => exact rfl

theorem take?_sat (n : Nat) (bs : Bytes) :
    Sat lo (fun p => bs = p.1 ++ p.2 ∧ p.1.length = n) (take? n bs) := by
  unfold take?
  split
  · exact .err
  · exact ⟨(List.take_append_drop n bs).symm, List.length_take_of_le (by omega)⟩

theorem readLen_sat (w : Bool) (r : Bytes) :
    Sat lo (fun p => IsSuffix p.2 r ∧ p.2.length + 1 ≤ r.length ∧ (w = false → p.1 < 256)) (readLen w r) := by
  unfold readLen
  cases w with
  | true =>
    refine .bind (take?_sat lo 4 r) id fun x _ hx => ?_
    exact ⟨⟨_, hx.1⟩, by show x.2.length + 1 ≤ _; rw [hx.1, List.length_append, hx.2]; omega, nofun⟩
  | false =>
    refine .bind (next?_sat lo r) id fun x _ hx => ?_
    exact ⟨⟨[_], hx⟩, by rw [hx]; simp, fun _ => x.1.toNat_lt⟩

/-- what the scalar step guarantees.  17 = 1 + 16: no fixed-width scalar is heavier (uuid, decimal128), so one
    byte consumed, or one unit of slack for a constructor without a body, pays for any of them. -/
def ScalarInv (c : Nat) (r : Bytes) (p : Value × Bytes) : Prop :=
  IsSuffix p.2 r ∧ nest p.1 = 0 ∧ mass p.1 + 17 * p.2.length ≤ 17 * (r.length + (if zeroWidth c then 1 else 0))

theorem scalar_paid {m n x rl z : Nat} (h : m ≤ 17 * n) (hr : n + x ≤ rl) : m + 17 * x ≤ 17 * (rl + z) := by omega

theorem scalarInv_byte {c : Nat} {v : Value} {b : UInt8} {r r' : Bytes} (h : r = b :: r') (hn : nest v = 0)
    (hm : mass v ≤ 17) : ScalarInv c r (v, r') :=
  h ▸ ⟨IsSuffix.cons _ _, hn, scalar_paid (n := 1) hm (Nat.le_of_eq (Nat.add_comm 1 _))⟩

theorem decScalar_sat (c : Nat) (r : Bytes) : OSat lo (ScalarInv c r) (decScalar c r) := by
  fun_cases decScalar c r with
  | case1 | case2 | case3 | case5 | case6 =>  -- null, true, false, uint0, ulong0: nothing is consumed
    have hz : zeroWidth c = true := ‹c = _› ▸ rfl
    refine ⟨IsSuffix.refl _, rfl, ?_⟩
    rw [hz, if_pos rfl, Nat.mul_succ, Nat.add_comm]
    exact Nat.add_le_add_left (Nat.le_of_ble_eq_true rfl) _
  | case4 =>  -- boolean: one byte, 0 or 1
    refine Sat.bind (next?_sat lo r) id fun p _ hp => ?_
    exact iteInduction (fun _ => scalarInv_byte hp rfl (Nat.le_of_ble_eq_true rfl)) fun _ =>
      iteInduction (fun _ => scalarInv_byte hp rfl (Nat.le_of_ble_eq_true rfl)) fun _ => .err
  | case7 | case8 | case9 | case10 =>  -- smalluint, smallulong, smallint, smalllong: one byte
    exact Sat.bind (next?_sat lo r) id fun p _ hp => scalarInv_byte hp rfl (Nat.le_of_ble_eq_true rfl)
  | case11 =>  -- a full-width fixed kind
    refine Sat.bind (take?_sat lo _ r) id fun p _ hp => .guard fun _ => ?_
    have hw : 1 ≤ p.1.length := hp.2 ▸ width_pos _
    have hm : 1 + p.1.length ≤ 17 * p.1.length := by omega
    exact ⟨⟨_, hp.1⟩, rfl, scalar_paid (n := p.1.length) hm (Nat.le_of_eq (hp.1 ▸ List.length_append.symm))⟩
  | case12 =>  -- binary, string, symbol
    refine Sat.bind (readLen_sat lo _ r) id fun p _ hp => .bind (take?_sat lo _ _) id fun q _ hq =>
      .guard fun _ => ?_
    have := hp.2.1
    rw [hq.1, List.length_append, Nat.add_comm _ 1, ← Nat.add_assoc] at this
    exact ⟨IsSuffix.trans ⟨_, hq.1⟩ hp.1, rfl, scalar_paid (Nat.le_mul_of_pos_left _ (by decide)) this⟩
  | case13 => trivial

/-- what an array element may weigh without consuming a byte: one unit if the element constructor is body-less
    (`take_zero_width_elements` charged the whole count to `zw` beforehand) -/
def slack (st : DSt) : Nat :=
  match st.ec with
  | some c => if zeroWidth c then 1 else 0
  | none => 0

/-- what one decoding step guarantees, on any input -/
structure StepInv (depth : Nat) (st : DSt) (v : Value) (s : DSt) : Prop where
  suffix : IsSuffix s.rest st.rest
  zw : s.zw ≤ st.zw
  nest : nest v ≤ depth
  mass : mass v + 17 * (s.rest.length + s.zw) ≤ 17 * (st.rest.length + st.zw + slack st)
  slack : slack s ≤ slack st

/-- the same for `count` consecutive values: each may use the slack once, hence `count * slack st` -/
structure SeqInv (depth count : Nat) (st : DSt) (vs : List Value) (s : DSt) : Prop where
  suffix : IsSuffix s.rest st.rest
  zw : s.zw ≤ st.zw
  nest : nestAll vs ≤ depth
  mass : massAll vs + 17 * (s.rest.length + s.zw) ≤ 17 * (st.rest.length + st.zw + count * slack st)
  slack : slack s ≤ slack st
  len : vs.length = count

macro "drop_if " h:ident " with " hx:ident " : " c:term : tactic =>
  `(tactic| (have $hx : ¬ $c := by
               intro hpos; rw [if_pos hpos] at $h:ident; simp at $h:ident
             rw [if_neg $hx] at $h:ident))

@[simp] theorem slack_mk_none (r : Bytes) (z : Nat) : slack { rest := r, ec := none, zw := z } = 0 := rfl

/-- fuel that `dec` needs at a given remaining depth: one level of at most `MAX_ARRAY_COUNT` entries per depth -/
def need (depth : Nat) : Nat := depth * (MAX_ARRAY_COUNT + 3) + 1

theorem need_step {depth fuel count : Nat} (hd : ¬ depth = 0) (hc : count ≤ MAX_ARRAY_COUNT)
    (h : need depth ≤ fuel + 1) : need (depth - 1) + count ≤ fuel := by
  cases depth with
  | zero => exact absurd rfl hd
  | succ d =>
    simp only [need, Nat.add_sub_cancel, Nat.succ_mul] at h ⊢
    omega

/-- what the pass proves of the three decoders at one value of `fuel` -/
structure DecSat (fuel : Nat) : Prop where
  dec : ∀ depth st, Sat (need depth ≤ fuel) (fun p => StepInv depth st p.1 p.2) (dec fuel depth st)
  seq : ∀ depth count st,
    Sat (need depth + count ≤ fuel) (fun p => SeqInv depth count st p.1 p.2) (decN fuel depth count st)
  arr : ∀ depth count st a b,
    Sat (need depth + count ≤ fuel) (fun p => SeqInv depth count st p.1 p.2) (decArr fuel depth count st a b)

theorem codeOrPeek_sat (ec : Option Nat) (bs : Bytes) :
    Sat lo (fun c => ∀ p, codeOrRead ec bs = .ok p → p.1 = c) (codeOrPeek ec bs) := by
  fun_cases codeOrPeek ec bs with
  | case1 c => exact fun p h => by cases h; rfl
  | case3 b r hb =>
    intro p hp
    rw [codeOrRead, if_pos hb] at hp
    cases hp
    rfl
  | _ => exact .err

/-- a byte is consumed unless the constructor is the array's, whose slack then pays for a body-less value -/
theorem codeOrRead_sat (st : DSt) :
    Sat lo (fun p => IsSuffix p.2 st.rest ∧
      p.2.length + (if zeroWidth p.1 then 1 else 0) ≤ st.rest.length + slack st ∧
      slack st ≤ (if zeroWidth p.1 then 1 else 0)) (codeOrRead st.ec st.rest) := by
  obtain ⟨bs, ec, zw⟩ := st
  fun_cases codeOrRead ec bs with
  | case1 c => exact ⟨IsSuffix.refl _, Nat.le_refl _, Nat.le_refl _⟩
  | case3 b r => exact ⟨IsSuffix.cons _ _, by simp only [List.length_cons, slack]; split <;> omega, Nat.zero_le _⟩
  | _ => exact .err

theorem codeOrRead_suffix (ec : Option Nat) (bs : Bytes) (c : Nat) (r : Bytes)
    (h : codeOrRead ec bs = .ok (c, r)) : IsSuffix r bs :=
  ((codeOrRead_sat True ⟨bs, ec, 0⟩).ok h).1

theorem seq_nil (depth : Nat) (st : DSt) (ec : Option Nat) (hs : slack ⟨st.rest, ec, st.zw⟩ ≤ slack st) :
    SeqInv depth 0 st [] ⟨st.rest, ec, st.zw⟩ :=
  ⟨IsSuffix.refl _, Nat.le_refl _, Nat.zero_le _, by simp only [massAll]; omega, hs, rfl⟩

theorem seq_cons {depth n : Nat} {st s1 s2 : DSt} {v : Value} {vs : List Value}
    (i1 : StepInv depth st v s1) (i2 : SeqInv depth n s1 vs s2) : SeqInv depth (n + 1) st (v :: vs) s2 := by
  have m1 := i1.mass
  have m2 := i2.mass
  have hmul : n * slack s1 ≤ n * slack st := Nat.mul_le_mul_left n i1.slack
  have hs : (n + 1) * slack st = n * slack st + slack st := Nat.succ_mul n _
  exact ⟨IsSuffix.trans i2.suffix i1.suffix, Nat.le_trans i2.zw i1.zw, Nat.max_le.2 ⟨i1.nest, i2.nest⟩,
    by simp only [massAll]; omega, Nat.le_trans i2.slack i1.slack, by simp [i2.len]⟩

/-- `hlen`: the header took at least a byte (or the slack pays); `hzw`: the entries' slack came out of `zw` -/
theorem node_inv {depth count : Nat} {st st' s : DSt} {vs : List Value} {v : Value} (ec' : Option Nat)
    (i : SeqInv (depth - 1) count st' vs s) (hd : ¬ depth = 0) (hsuf : IsSuffix st'.rest st.rest)
    (hlen : st'.rest.length + 1 ≤ st.rest.length + slack st) (hzw : st'.zw + count * slack st' ≤ st.zw)
    (hn : nest v ≤ 1 + nestAll vs) (hm : mass v ≤ 1 + massAll vs)
    (hsl : slack ⟨s.rest, ec', s.zw⟩ ≤ slack st) : StepInv depth st v ⟨s.rest, ec', s.zw⟩ where
  suffix := IsSuffix.trans i.suffix hsuf
  zw := Nat.le_trans i.zw (Nat.le_trans (Nat.le_add_right _ _) hzw)
  nest := Nat.le_trans hn (by have := i.nest; omega)
  mass := by
    have m := i.mass
    show _ + 17 * (s.rest.length + s.zw) ≤ _
    generalize count * slack st' = cs at *
    generalize st'.rest.length = a', st.rest.length = a, s.rest.length = x at *
    omega
  slack := hsl

theorem hdr_len {a b c d e : Nat} (h : b + e ≤ a) (h1 : c + 1 ≤ b) (h2 : d + 1 ≤ c) : d + 1 ≤ a := by omega

theorem zw_paid {z : Bool} {zw count : Nat} (h : ¬ (z && decide (zw < count)) = true) :
    (if z then zw - count else zw) + count * (if z then 1 else 0) ≤ zw := by
  cases z
  · exact Nat.le_refl _
  · have : count ≤ zw := by simpa using h
    simp only [if_true, Nat.mul_one]
    omega

theorem count_le {w : Bool} {n : Nat} (h : w = false → n < 256) (hx : ¬ (w && decide (n > MAX_ARRAY_COUNT)) = true) :
    n ≤ MAX_ARRAY_COUNT := by
  cases w with
  | true => simpa using hx
  | false => have := h rfl; simp only [MAX_ARRAY_COUNT]; omega

/-! The arms of `decAt`: a derivation follows the arm's `do` block, one rule per line. -/

section
variable (depth : Nat) (st : DSt)

theorem decList0_sat (hz : ∀ p, codeOrRead st.ec st.rest = .ok p → zeroWidth p.1 = true) :
    Sat lo (fun p => StepInv depth st p.1 p.2) (decList0 depth st) :=
  .bind (codeOrRead_sat _ st) id fun p hp hr =>
  .guard fun hd0 => by
    have hl := hr.2.1
    rw [hz p hp, if_pos rfl] at hl
    exact node_inv st.ec (seq_nil _ ⟨p.2, st.ec, st.zw⟩ _ (Nat.le_refl _)) hd0 hr.1 hl
      (by rw [Nat.zero_mul]; exact Nat.le_refl _) (Nat.le_refl _) (Nat.le_refl _) (Nat.le_refl _)

theorem decLeaf_sat : Sat lo (fun p => StepInv depth st p.1 p.2) (decLeaf st) := by
  unfold decLeaf
  dsimp only
  refine .bind (codeOrRead_sat _ st) id fun p _ hr => ?_
  match decScalar p.1 p.2, decScalar_sat lo p.1 p.2 with
  | none, _ => exact .err
  | some _, h =>
    refine .bind h id fun x _ hx => ?_
    obtain ⟨hf, hn, hm⟩ := hx
    obtain ⟨hs, hl, hsl⟩ := hr
    exact ⟨IsSuffix.trans hf hs, Nat.le_refl _, hn ▸ Nat.zero_le _, by dsimp only; omega, Nat.le_refl _⟩

variable {fuel : Nat} (ih : DecSat fuel) (w : Bool)
include ih

theorem decDescribed_sat :
    Sat (need depth ≤ fuel + 1) (fun p => StepInv depth st p.1 p.2) (decDescribed fuel depth st) := by
  fun_cases decDescribed fuel depth st with
  | case7 hd0 _ b dc tail _ hr =>
    have hf (h : need depth ≤ fuel + 1) : need (depth - 1) ≤ fuel :=
      Nat.le_trans (Nat.le_add_right _ 0) (need_step hd0 (Nat.zero_le _) h)
    -- a described value is paid for like a node over its two parts
    exact .bind (ih.dec _ _) hf fun x1 _ i1 => .guard fun _ => .bind (ih.dec _ _) hf fun x2 _ i2 =>
      node_inv x2.2.ec (seq_cons i1 (seq_cons i2 (seq_nil _ _ _ (Nat.le_refl _)))) hd0 ⟨[b], hr⟩
        (hr ▸ Nat.le_add_right _ _) (Nat.le_refl _) (by simp only [nest, nestAll]; omega)
        (by simp only [mass, massAll]; omega) (Nat.le_trans (Nat.le_trans i2.slack i1.slack) (Nat.zero_le _))
  | _ => exact .err

theorem decList_sat :
    Sat (need depth ≤ fuel + 1) (fun p => StepInv depth st p.1 p.2) (decList fuel depth st w) :=
  .bind (codeOrRead_sat _ st) id fun p _ hr =>
  .bind (readLen_sat _ _ _) id fun q1 _ h1 =>
  .bind (readLen_sat _ _ _) id fun q2 _ h2 =>
  .guard fun hx1 =>
  .guard fun _ =>
  .guard fun hd0 =>
  .bind (ih.seq _ _ _) (need_step hd0 (count_le h2.2.2 hx1)) fun x _ i =>
  node_inv x.2.ec i hd0 (IsSuffix.trans h2.1 (IsSuffix.trans h1.1 hr.1)) (hdr_len hr.2.1 h1.2.1 h2.2.1)
    (Nat.le_refl _) (Nat.le_refl _) (Nat.le_refl _) (Nat.le_trans i.slack (Nat.zero_le _))

/-- the element constructor, if any, stays in force for a map's entries: it is not a body-less one -/
theorem decMap_sat (hz : ∀ p, codeOrRead st.ec st.rest = .ok p → zeroWidth p.1 = false) :
    Sat (need depth ≤ fuel + 1) (fun p => StepInv depth st p.1 p.2) (decMap fuel depth st w) :=
  .bind (codeOrRead_sat _ st) id fun p hp hr =>
  .bind (readLen_sat _ _ _) id fun q1 _ h1 =>
  .bind (readLen_sat _ _ _) id fun q2 _ h2 =>
  .guard fun hx1 =>
  .guard fun _ =>
  .guard fun _ =>
  .guard fun hd0 =>
  .bind (ih.seq _ _ _) (need_step hd0 (count_le h2.2.2 hx1)) fun x _ i => by
    obtain ⟨hs, hl, hsl⟩ := hr
    rw [hz p hp, if_neg Bool.false_ne_true] at hl hsl
    have e0 : slack ({ rest := q2.2, ec := st.ec, zw := st.zw } : DSt) = 0 := Nat.le_zero.mp hsl
    exact node_inv x.2.ec i hd0 (IsSuffix.trans h2.1 (IsSuffix.trans h1.1 hs)) (hdr_len hl h1.2.1 h2.2.1)
      (by rw [e0]; exact Nat.le_refl _)
      (Nat.add_le_add_left (nestAll_insertAll x.1 [] (Nat.zero_le _) (Nat.le_refl _)) 1)
      (Nat.add_le_add_left (Nat.le_trans (massAll_insertAll x.1 []) (Nat.le_of_eq (Nat.zero_add _))) 1)
      (Nat.le_trans i.slack (Nat.le_trans (Nat.le_of_eq e0) (Nat.zero_le _)))

theorem decArray_sat :
    Sat (need depth ≤ fuel + 1) (fun p => StepInv depth st p.1 p.2) (decArray fuel depth st w) :=
  .bind (codeOrRead_sat _ st) id fun p _ hr =>
  .bind (readLen_sat _ _ _) id fun q1 _ h1 =>
  .bind (readLen_sat _ _ _) id fun q2 _ h2 =>
  have hs2 := IsSuffix.trans h2.1 (IsSuffix.trans h1.1 hr.1)
  have hl2 := h2.2.1
  .guard fun hx1 =>
  iteInduction
    (fun _ => .guard fun hd0 =>
      node_inv none (seq_nil _ ⟨q2.2, none, st.zw⟩ _ (Nat.le_refl _)) hd0 hs2 (hdr_len hr.2.1 h1.2.1 hl2)
        (Nat.le_refl _) (Nat.le_refl _) (Nat.le_refl _) (Nat.zero_le _))
    fun _ =>
  .bind (next?_sat _ _) id fun x3 _ h3 =>
  .guard fun _ =>
  .guard fun hx5 =>
  .guard fun _ =>
  .guard fun hd0 =>
  .bind (ih.arr _ _ _ _ _) (need_step hd0 (Nat.le_of_not_lt fun h => hx1 (Or.inl h))) fun x _ i => by
    rw [h3, List.length_cons] at hl2
    exact node_inv none i hd0 (IsSuffix.trans ⟨[_], h3⟩ hs2) (hdr_len hr.2.1 h1.2.1 (Nat.le_of_succ_le hl2))
      (zw_paid hx5) (Nat.le_refl _) (Nat.le_refl _) (Nat.zero_le _)

end

theorem dec_sat : ∀ (fuel : Nat), DecSat fuel
  | 0 => by
    refine ⟨fun depth st => ?_, fun depth count st => ?_, fun depth count st a b => ?_⟩
    · unfold dec; exact fun h => absurd h (by unfold need; omega)
    · unfold decN; exact fun h => absurd h (by unfold need; omega)
    · unfold decArr; exact fun h => absurd h (by unfold need; omega)
  | fuel + 1 => by
    have ih := dec_sat fuel
    refine ⟨fun depth st => ?_, fun depth count st => ?_, fun depth count st a b => ?_⟩
    · rw [dec_succ]
      refine .bind (codeOrPeek_sat _ _ _) id fun c _ hpk => ?_
      have hz (b : Bool) (h : zeroWidth c = b) (p) (hp : codeOrRead st.ec st.rest = .ok p) : zeroWidth p.1 = b := by
        rw [hpk p hp, h]
      unfold decAt
      refine iteInduction (fun _ => decDescribed_sat depth st ih) fun _ => ?_
      refine iteInduction (fun hc => decList0_sat _ depth st (hz true (by rw [hc]; decide))) fun _ => ?_
      refine iteInduction (fun _ => decList_sat depth st ih _) fun _ => ?_
      refine iteInduction (fun hc => decMap_sat depth st ih _ (hz false (by rcases hc with rfl | rfl <;> decide)))
        fun _ => ?_
      exact iteInduction (fun _ => decArray_sat depth st ih _) fun _ => decLeaf_sat _ depth st
    · unfold decN
      cases count with
      | zero => exact seq_nil _ _ _ (Nat.le_refl _)
      | succ n =>
        exact .bind (ih.dec _ _) (fun h => by omega)
          fun x _ i1 => .bind (ih.seq _ _ _) Nat.le_of_succ_le_succ fun y _ i2 => seq_cons i1 i2
    · unfold decArr
      cases count with
      | zero => exact seq_nil _ _ _ (Nat.zero_le _)
      | succ n =>
        exact .bind (ih.dec _ _) (fun h => by omega)
          fun x _ i1 => .guard fun _ => .bind (ih.arr _ _ _ _ _) Nat.le_of_succ_le_succ fun y _ i2 => seq_cons i1 i2

theorem need_le_decodeFuel (n : Nat) : need MAX_NESTING_DEPTH ≤ decodeFuel n := by
  simp only [need, decodeFuel, MAX_NESTING_DEPTH, MAX_ARRAY_COUNT]; omega

end Amqp.Codec
