/-
  Lemmas for C06.  `pieces k` is what every cutting loop of the model computes (`encode_transfer`,
  `split_transfer`, `link_transfers`, `start_send`); `front m` is what the stream decoder finds at the
  front of its buffer, and the decoder is the iteration of `front`.
-/
import Amqp.Frame
import Theorems.Lemmas.U32

namespace Amqp.Frame
open Amqp.Gen.FrameK

/-- pieces of `k` bytes off the front while more than `k` are left (fuel = bytes left) -/
def pieces (k : Nat) : Nat → Bytes → List Bytes × Bytes
  | 0, rest => ([], rest)
  | fuel + 1, rest =>
    if k < rest.length then (rest.take k :: (pieces k fuel (rest.drop k)).1, (pieces k fuel (rest.drop k)).2)
    else ([], rest)

theorem pieces_flatten (k fuel : Nat) (l : Bytes) : (pieces k fuel l).1.flatten ++ (pieces k fuel l).2 = l := by
  fun_induction pieces k fuel l with
  | case2 _ _ _ ih => simp only [List.flatten_cons, List.append_assoc, ih, List.take_append_drop]
  | _ => rfl

theorem pieces_length {k : Nat} (hk : 0 < k) (fuel : Nat) (l : Bytes) (h : l.length ≤ fuel) :
    (∀ c ∈ (pieces k fuel l).1, c.length = k) ∧ (pieces k fuel l).2.length ≤ k := by
  fun_induction pieces k fuel l with
  | case1 => exact ⟨nofun, Nat.le_trans h (Nat.zero_le k)⟩
  | case2 fuel l hlt ih =>
    obtain ⟨i1, i2⟩ := ih (by
      rw [List.length_drop]; exact Nat.sub_le_of_le_add (Nat.le_trans h (Nat.add_le_add_left hk fuel)))
    exact ⟨List.forall_mem_cons.mpr ⟨List.length_take_of_le (Nat.le_of_lt hlt), i1⟩, i2⟩
  | case3 _ _ hn => exact ⟨nofun, Nat.le_of_not_lt hn⟩

theorem pieces_flatten_append {k : Nat} (last : Bytes) (h0 : 0 < last.length) (hl : last.length ≤ k) :
    ∀ (fs : List Bytes) (fuel : Nat), (∀ f ∈ fs, f.length = k) → (fs.flatten ++ last).length ≤ fuel →
      pieces k fuel (fs.flatten ++ last) = (fs, last)
  | [], fuel, _, _ => by
    cases fuel with
    | zero => rfl
    | succ fuel => rw [List.flatten_nil, List.nil_append, pieces, if_neg (Nat.not_lt.mpr hl)]
  | f :: fs, fuel, hall, hfuel => by
    have hf : f.length = k := hall f List.mem_cons_self
    rw [List.flatten_cons, List.append_assoc] at hfuel ⊢
    have hlt : k < (f ++ (fs.flatten ++ last)).length := by
      rw [List.length_append, List.length_append, hf]
      exact Nat.lt_add_of_pos_right (Nat.add_pos_right _ h0)
    cases fuel with
    | zero => exact absurd (Nat.lt_of_lt_of_le hlt hfuel) (Nat.not_lt_zero k)
    | succ fuel =>
      have hd : (f ++ (fs.flatten ++ last)).drop k = fs.flatten ++ last := hf ▸ List.drop_left
      have ht : (f ++ (fs.flatten ++ last)).take k = f := hf ▸ List.take_left
      have hfu : (fs.flatten ++ last).length ≤ fuel := by
        rw [List.length_append, hf] at hfuel
        exact Nat.le_of_lt_succ (Nat.lt_of_lt_of_le
          (Nat.lt_add_of_pos_left (Nat.lt_of_lt_of_le h0 hl)) hfuel)
      rw [pieces, if_pos hlt, hd, ht, pieces_flatten_append last h0 hl fs fuel
        (fun g hg => hall g (List.mem_cons_of_mem _ hg)) hfu]

theorem middleLoop_eq {B p : Nat} (hp : p ≤ B) : ∀ (fuel : Nat) (rest : Bytes),
    middleLoop B p fuel (p + rest.length) rest = pieces (B - p) fuel rest
  | 0, _ => rfl
  | fuel + 1, rest => by
    -- the loop runs while `remaining = p + rest.length > B`, i.e. while `rest.length > B - p`, and cuts `B - p`
    simp only [middleLoop, pieces, encode_transfer.cond_while_0, encode_transfer.let_split_index_1,
      encode_transfer.assign_remaining_bytes_0, psub64, gt_iff_lt, decide_eq_true_eq,
      ← Nat.sub_lt_iff_lt_add' hp, middleLoop_eq hp fuel]

theorem sMiddle_eq {B r : Nat} (hr : r ≤ B) : ∀ (fuel : Nat) (rest : Bytes),
    sMiddle B r fuel rest = pieces (B - r) fuel rest
  | 0, _ => rfl
  | fuel + 1, rest => by
    simp only [sMiddle, pieces, split_transfer.cond_while_0, split_transfer.arg_split_to_1,
      psub64, gt_iff_lt, decide_eq_true_eq, ← Nat.sub_lt_iff_lt_add' hr, sMiddle_eq hr fuel]

theorem chunks_eq (E : Nat) : ∀ (fuel : Nat) (buf : Bytes),
    chunks E fuel buf = (pieces E fuel buf).1 ++ [(pieces E fuel buf).2]
  | 0, _ => rfl
  | fuel + 1, buf => by
    simp only [chunks, pieces, start_send.cond_while_0, gt_iff_lt, decide_eq_true_eq, chunks_eq E fuel]
    split <;> rfl

theorem middleLoop_spec (B p2len : Nat) (hlt : p2len < B) : ∀ (fuel : Nat) (rest : Bytes), rest.length ≤ fuel →
    (∀ c ∈ (middleLoop B p2len fuel (p2len + rest.length) rest).1, c.length = B - p2len) ∧
    p2len + (middleLoop B p2len fuel (p2len + rest.length) rest).2.length ≤ B ∧
    (middleLoop B p2len fuel (p2len + rest.length) rest).1.flatten ++ (middleLoop B p2len fuel (p2len + rest.length) rest).2 = rest := by
  intro fuel rest h
  rw [middleLoop_eq (Nat.le_of_lt hlt)]
  obtain ⟨h1, h2⟩ := pieces_length (Nat.sub_pos_of_lt hlt) fuel rest h
  exact ⟨h1, Nat.add_le_of_le_sub' (Nat.le_of_lt hlt) h2, pieces_flatten _ _ _⟩

/-- `p2 < B` is strict: a continuation frame must carry a byte of payload for `encode_transfer`'s loop to
    advance; the first frame (`p1 ≤ B`) may carry none -/
structure Fits (B : Nat) (p : Perfs) : Prop where
  /-- setting `more` never shortens the encoding -/
  p01 : p.p0.length ≤ p.p1.length
  p1 : p.p1.length ≤ B
  p2 : p.p2.length < B
  p3 : p.p3.length ≤ p.p2.length

def payloadOf (l : List (Bytes × Bytes)) : Bytes := (l.map (·.2)).flatten

theorem payloadOf_cons (q c : Bytes) (l : List (Bytes × Bytes)) :
    payloadOf ((q, c) :: l) = c ++ payloadOf l :=
  rfl

theorem payloadOf_append (a b : List (Bytes × Bytes)) :
    payloadOf (a ++ b) = payloadOf a ++ payloadOf b := by
  simp [payloadOf]

theorem payloadOf_map_const (q : Bytes) (cs : List Bytes) :
    payloadOf (cs.map (fun c => (q, c))) = cs.flatten := by
  rw [payloadOf, List.map_map]; exact congrArg _ (List.map_id _)

theorem split_single (B : Nat) (p : Perfs) (payload : Bytes)
    (h : ¬ encode_transfer.cond_if_0 p.p0.length payload.length B = true) :
    split B p payload = [(p.p0, payload)] :=
  if_neg h

theorem split_cases (B : Nat) (p : Perfs) (payload : Bytes) (hf : Fits B p) :
    (split B p payload = [(p.p0, payload)] ∧ p.p0.length + payload.length ≤ B) ∨
    (∃ (cs : List Bytes) (rest : Bytes), split B p payload =
        (p.p1, payload.take (B - p.p1.length)) :: cs.map (fun c => (p.p2, c)) ++ [(p.p3, rest)] ∧
        p.p0.length + payload.length > B ∧ payload.take (B - p.p1.length) ++ (cs.flatten ++ rest) = payload ∧
        p.p1.length + (payload.take (B - p.p1.length)).length = B ∧ (∀ c ∈ cs, p.p2.length + c.length = B) ∧
        p.p3.length + rest.length ≤ B) := by
  by_cases h : p.p0.length + payload.length > B
  · right
    obtain ⟨h1, h2, h3⟩ := middleLoop_spec B p.p2.length hf.p2 payload.length (payload.drop (B - p.p1.length))
      (by rw [List.length_drop]; exact Nat.sub_le _ _)
    refine ⟨_, _, ?_, h, by rw [h3, List.take_append_drop], ?_,
      fun c hc => by rw [h1 c hc]; exact Nat.add_sub_cancel' (Nat.le_of_lt hf.p2),
      Nat.le_trans (Nat.add_le_add_right hf.p3 _) h2⟩
    · simp only [split, encode_transfer.cond_if_0, h, decide_true, if_true, encode_transfer.let_split_index_0,
        psub64, middle, encode_transfer.let_remaining_bytes_1]
    · rw [List.length_take_of_le (Nat.le_trans (Nat.sub_le_sub_left hf.p01 B)
        (Nat.sub_le_iff_le_add'.mpr (Nat.le_of_lt h))), Nat.add_sub_cancel' hf.p1]
  · exact .inl ⟨split_single B p payload (by simpa [encode_transfer.cond_if_0] using h), Nat.le_of_not_lt h⟩

theorem frame_length (ch : Nat) (q c : Bytes) : (header ch ++ q ++ c).length = 4 + (q.length + c.length) := by
  rw [List.append_assoc, List.length_append, List.length_append]; rfl

theorem encodeTransfer_cases (E : Nat) (hE : 4 < E) (ch : Nat) (p : Perfs) (payload : Bytes) (hf : Fits (E - 4) p) :
    ∃ fs last, encodeTransfer (E - 4) ch p payload = fs ++ [last] ∧ (∀ f ∈ fs, f.length = E) ∧
      0 < last.length ∧ last.length ≤ E := by
  have pos : ∀ (q c : Bytes), 0 < (header ch ++ q ++ c).length := fun q c => by
    rw [frame_length]; exact Nat.lt_of_lt_of_le (by decide) (Nat.le_add_right 4 _)
  have full : ∀ (q c : Bytes), q.length + c.length = E - 4 → (header ch ++ q ++ c).length = E := fun q c h => by
    rw [frame_length, h, Nat.add_sub_cancel' (Nat.le_of_lt hE)]
  have fits : ∀ (q c : Bytes), q.length + c.length ≤ E - 4 → (header ch ++ q ++ c).length ≤ E := fun q c h => by
    rw [frame_length]; exact Nat.add_le_of_le_sub' (Nat.le_of_lt hE) h
  unfold encodeTransfer
  rcases split_cases (E - 4) p payload hf with ⟨h, hle⟩ | ⟨cs, rest, h, _, _, h1, hcs, hr⟩
  · exact ⟨[], _, by rw [h]; rfl, fun _ hc => (nomatch hc), pos _ _, fits _ _ hle⟩
  · exact ⟨_ :: cs.map (fun c => header ch ++ p.p2 ++ c), _,
      by rw [h, List.map_append, List.map_cons, List.map_map]; rfl,
      List.forall_mem_cons.mpr ⟨full _ _ h1, List.forall_mem_map.mpr fun c hc => full _ _ (hcs c hc)⟩,
      pos _ _, fits _ _ hr⟩

theorem prefixed_length (c : Bytes) : (prefixed c).length = c.length + 4 := by
  rw [prefixed, List.length_append, Nat.add_comm]; rfl

theorem readBe32_be32 (n : Nat) (h : n < 4294967296) :
    readBe32 (UInt8.ofNat (n / 16777216 % 256)) (UInt8.ofNat (n / 65536 % 256))
      (UInt8.ofNat (n / 256 % 256)) (UInt8.ofNat (n % 256)) = n := by
  simp only [readBe32, UInt8.toNat_ofNat', Nat.mod_mod]
  exact be32_digits n h

theorem lengthFieldLen_eq : lengthFieldLen = 4 := rfl

/-- what the decoder finds at the front of its buffer -/
inductive Front where
  | wait                       -- no complete frame yet
  | bad (e : DecErr)
  | frame (f rest : Bytes)

def front (m : Nat) : Bytes → Front
  | b0 :: b1 :: b2 :: b3 :: rest =>
    if readBe32 b0 b1 b2 b3 < 4 then .bad .tooShort
    else if readBe32 b0 b1 b2 b3 > m then .bad .tooLong
    else if rest.length < readBe32 b0 b1 b2 b3 - 4 then .wait
    else .frame (rest.take (readBe32 b0 b1 b2 b3 - 4)) (rest.drop (readBe32 b0 b1 b2 b3 - 4))
  | _ => .wait

/-- the decoder's move on what stands at the front of `buf`; `k` decodes what comes after a frame -/
def Front.next (k : Bytes → List Bytes × Bytes × Option DecErr) (buf : Bytes) :
    Front → List Bytes × Bytes × Option DecErr
  | .wait => ([], buf, none)
  | .bad e => ([], buf, some e)
  | .frame f rest => (f :: (k rest).1, (k rest).2)

theorem drain_succ (m fuel : Nat) : ∀ (buf : Bytes),
    drain m (fuel + 1) buf = (front m buf).next (drain m fuel) buf
  | b0 :: b1 :: b2 :: b3 :: rest => by
    rw [front, apply_ite (Front.next (drain m fuel) _), apply_ite (Front.next (drain m fuel) _),
      apply_ite (Front.next (drain m fuel) _)]
    rfl
  | [] | [_] | [_, _] | [_, _, _] => rfl

theorem front_append (m : Nat) : ∀ (a b : Bytes),
    front m (a ++ b) = match front m a with
      | .wait => front m (a ++ b)   -- says nothing: more bytes may complete the frame
      | .bad e => .bad e
      | .frame f r => .frame f (r ++ b)
  | b0 :: b1 :: b2 :: b3 :: rest, b => by
    rw [List.cons_append, List.cons_append, List.cons_append, List.cons_append, front, front]
    by_cases h1 : readBe32 b0 b1 b2 b3 < 4
    · rw [if_pos h1, if_pos h1]
    · rw [if_neg h1, if_neg h1]
      by_cases h2 : readBe32 b0 b1 b2 b3 > m
      · rw [if_pos h2, if_pos h2]
      · rw [if_neg h2, if_neg h2]
        by_cases h3 : rest.length < readBe32 b0 b1 b2 b3 - 4
        · rw [if_pos h3]
        · have hk : readBe32 b0 b1 b2 b3 - 4 ≤ rest.length := Nat.le_of_not_lt h3
          rw [if_neg h3, if_neg (by rw [List.length_append]; exact Nat.not_lt.mpr (Nat.le_add_right_of_le hk)),
            List.take_append_of_le_length hk, List.drop_append_of_le_length hk]
  | [], _ | [_], _ | [_, _], _ | [_, _, _], _ => rfl

theorem front_length {m : Nat} {a f r : Bytes} (h : front m a = .frame f r) : r.length < a.length := by
  unfold front at h
  split at h
  · rename_i b0 b1 b2 b3 rest
    by_cases h1 : readBe32 b0 b1 b2 b3 < 4
    · rw [if_pos h1] at h; cases h
    · rw [if_neg h1] at h
      by_cases h2 : readBe32 b0 b1 b2 b3 > m
      · rw [if_pos h2] at h; cases h
      · rw [if_neg h2] at h
        by_cases h3 : rest.length < readBe32 b0 b1 b2 b3 - 4
        · rw [if_pos h3] at h; cases h
        · rw [if_neg h3] at h
          cases h
          rw [List.length_drop]
          exact Nat.lt_of_le_of_lt (Nat.sub_le _ _) (Nat.lt_add_of_pos_right (by decide : 0 < 4))
  · cases h

theorem drain_fuel (m : Nat) : ∀ (f : Nat) (buf : Bytes), buf.length ≤ f → drain m (f + 1) buf = drain m f buf
  | 0, buf, h => by
    cases buf with
    | nil => rfl
    | cons _ _ => cases h
  | f + 1, buf, h => by
    rw [drain_succ, drain_succ m f]
    cases hf : front m buf with
    | frame g r =>
      simp only [Front.next, drain_fuel m f r (Nat.le_of_lt_succ (Nat.lt_of_lt_of_le (front_length hf) h))]
    | _ => rfl

/-- the decoder run on a buffer: the frames, what is left over, and the error if it stopped on one
    (`drain` with exactly enough fuel) -/
def D (m : Nat) (buf : Bytes) : List Bytes × Bytes × Option DecErr := drain m buf.length buf

theorem D_eq (m f : Nat) (buf : Bytes) (h : buf.length ≤ f) : drain m f buf = D m buf := by
  induction h with
  | refl => rfl
  | step h ih => rw [drain_fuel m _ buf h, ih]

theorem D_front (m : Nat) (buf : Bytes) : D m buf = (front m buf).next (D m) buf := by
  cases buf with
  | nil => rfl
  | cons b bs =>
    rw [D, List.length_cons, drain_succ]
    cases hf : front m (b :: bs) with
    | frame f r => simp only [Front.next, D_eq m bs.length r (Nat.le_of_lt_succ (front_length hf))]
    | _ => rfl

/-- `n` bounds the length of `a`: the recursion is on it -/
theorem D_append (m : Nat) : ∀ (n : Nat) (a b : Bytes), a.length < n →
    D m (a ++ b) = match D m a with
      | (fs, r, some e) => (fs, r ++ b, some e)
      | (fs, r, none) => (fs ++ (D m (r ++ b)).1, (D m (r ++ b)).2)
  | n + 1, a, b, h => by
    rw [D_front m a]
    cases hf : front m a with
    | wait => rfl
    | bad e => rw [D_front, front_append, hf]; rfl
    | frame f r =>
      rw [D_front m (a ++ b), front_append, hf]
      dsimp only [Front.next]
      rw [D_append m n r b (Nat.lt_of_lt_of_le (front_length hf) (Nat.le_of_lt_succ h))]
      rcases D m r with ⟨fs, r', _ | e⟩ <;> rfl

theorem D_prefixed (m : Nat) (c rest : Bytes) (hc : c.length + 4 ≤ m) (hbig : c.length + 4 < 4294967296) :
    D m (prefixed c ++ rest) = (c :: (D m rest).1, (D m rest).2) := by
  have hf : front m (prefixed c ++ rest) = .frame c rest := by
    show front m (_ :: _ :: _ :: _ :: (c ++ rest)) = _
    simp only [front, lengthFieldLen_eq, readBe32_be32 _ hbig, Nat.add_sub_cancel, List.take_left, List.drop_left,
      Nat.not_lt.mpr (Nat.le_add_left 4 c.length), Nat.not_lt.mpr hc, if_false, List.length_append,
      Nat.not_lt.mpr (Nat.le_add_right c.length rest.length)]
  rw [D_front, hf]; rfl

theorem D_wire (m : Nat) : ∀ (cs : List Bytes), (∀ c ∈ cs, c.length + 4 ≤ m ∧ c.length + 4 < 4294967296) →
    D m (cs.map prefixed).flatten = (cs, [], none)
  | [], _ => rfl
  | c :: cs, h => by
    obtain ⟨h1, h2⟩ := h c List.mem_cons_self
    rw [List.map_cons, List.flatten_cons, D_prefixed m c _ h1 h2,
      D_wire m cs (fun c' hc' => h c' (List.mem_cons_of_mem _ hc'))]

theorem feed_live (m : Nat) (st : DecSt) (chunk : Bytes) (h : st.failed = none) :
    feed m st chunk = ({ buf := (D m (st.buf ++ chunk)).2.1, failed := (D m (st.buf ++ chunk)).2.2 },
                        (D m (st.buf ++ chunk)).1) := by
  simp only [feed, h, D]

theorem feed_failed (m : Nat) (st : DecSt) (chunk : Bytes) (e : DecErr) (h : st.failed = some e) :
    feed m st chunk = (st, []) := by
  simp only [feed, h]

/-- the buffer of a live decoder state holds no complete frame -/
def Drained (m : Nat) (st : DecSt) : Prop := st.failed = none → D m st.buf = ([], st.buf, none)

/-- the same frames, the same error, and the same buffer while there is no error (a decoder that has
    failed keeps the buffer it failed on) -/
def Same (r r' : DecSt × List Bytes) : Prop :=
  r.2 = r'.2 ∧ r.1.failed = r'.1.failed ∧ (r'.1.failed = none → r.1.buf = r'.1.buf)

theorem feed_feed (m : Nat) (st : DecSt) (a b : Bytes) :
    Same ((feed m (feed m st a).1 b).1, (feed m st a).2 ++ (feed m (feed m st a).1 b).2) (feed m st (a ++ b)) := by
  cases hf : st.failed with
  | some e =>
    rw [feed_failed m st a e hf, feed_failed m st b e hf, feed_failed m st (a ++ b) e hf]
    exact ⟨rfl, rfl, fun _ => rfl⟩
  | none =>
    rw [feed_live m st a hf, feed_live m st (a ++ b) hf, ← List.append_assoc, D_append m _ _ b (Nat.lt_succ_self _)]
    rcases D m (st.buf ++ a) with ⟨fs, r, _ | err⟩
    · rw [feed_live m _ b rfl]; exact ⟨rfl, rfl, fun _ => rfl⟩
    · rw [feed_failed m _ b err rfl]; exact ⟨List.append_nil _, rfl, fun hn => (nomatch hn)⟩

theorem feedAll_cons (m : Nat) (st : DecSt) (c : Bytes) (cs : List Bytes) :
    feedAll m st (c :: cs) =
      ((feedAll m (feed m st c).1 cs).1, (feed m st c).2 ++ (feedAll m (feed m st c).1 cs).2) :=
  rfl

theorem feedAll_flatten_cons (m : Nat) : ∀ (cs : List Bytes) (c : Bytes) (st : DecSt),
    Same (feedAll m st (c :: cs)) (feed m st (c :: cs).flatten)
  | [], c, st => by
    rw [List.flatten_cons, List.flatten_nil, List.append_nil]
    exact ⟨List.append_nil _, rfl, fun _ => rfl⟩
  | c' :: cs, c, st => by
    obtain ⟨i1, i2, i3⟩ := feedAll_flatten_cons m cs c' (feed m st c).1
    obtain ⟨f1, f2, f3⟩ := feed_feed m st c (c' :: cs).flatten
    rw [feedAll_cons]
    exact ⟨(congrArg (_ ++ ·) i1).trans f1, i2.trans f2, fun hn => (i3 (f2.trans hn)).trans (f3 hn)⟩

/-- with no read at all the decoder is not run: this is where the buffer must hold no complete frame to
    start with -/
theorem feedAll_flatten (m : Nat) (cs : List Bytes) (st : DecSt) (h : Drained m st) :
    Same (feedAll m st cs) (feed m st cs.flatten) := by
  cases cs with
  | cons c cs => exact feedAll_flatten_cons m cs c st
  | nil =>
    cases hf : st.failed with
    | some e => rw [List.flatten_nil, feed_failed m st [] e hf]; exact ⟨rfl, rfl, fun _ => rfl⟩
    | none =>
      rw [List.flatten_nil, feed_live m st [] hf, List.append_nil, h hf]
      exact ⟨rfl, hf, fun _ => rfl⟩

end Amqp.Frame
