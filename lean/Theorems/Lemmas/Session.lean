/-
  The session engine's outgoing side.  Every transfer frame leaves through the drain loop: an outgoing
  transfer and an incoming flow both drain the queue of held frames (`onOutgoingTransfer_eq`,
  `onIncomingFlow_eq`).  What C07 says is proved once of the loop, by one induction along it (`Drained`,
  `drainBuf_spec`), and from that once of each operation (`Stepped`, `step_spec`); C07's theorems are the
  fields of `Stepped` carried along a history.  The definitions are the terms in which the statements of
  C07 are written.
-/
import Amqp.Session
import Theorems.Lemmas.U32

namespace Amqp.Session
open Amqp Amqp.Gen.Session

/-- the window the peer last advertised: `[base, base+len)` in serial arithmetic -/
structure Win where
  base : Nat
  len : Nat

/-- ghost update of the advertised window -/
def winAfter (s : St) (w : Win) : Op → Win
  | .inBegin _ iw _ => ⟨s.initOid, iw⟩
  | .inFlow f => ⟨f.nif.getD s.initOid, f.iw⟩
  | _ => w

/-- well-formed operations of a history that starts after the one begin (`started`): every wire value is a
    `u32`, and a second begin is none -/
def Op.WF : Op → Prop
  | .inBegin _ _ _ => False
  | .inFlow f => (∀ n, f.nif = some n → n < 4294967296) ∧ f.iw < 4294967296 ∧
      f.noi < 4294967296 ∧ f.ow < 4294967296
  | _ => True

/-- The safety invariant: either the endpoint believes the window is closed, or
    what it believes is left of the window fits inside what the peer advertised. -/
structure SInv (s : St) (w : Win) : Prop where
  noi_lt : s.noi < 4294967296
  init_lt : s.initOid < 4294967296
  base_lt : w.base < 4294967296
  len_lt : w.len < 4294967296
  fits : s.riw = 0 ∨ sdist w.base s.noi + s.riw ≤ w.len

def transferIds : List Out → List Nat
  | [] => []
  | .transfer tid _ _ _ :: os => tid :: transferIds os
  | _ :: os => transferIds os

theorem transferIds_append (a b : List Out) :
    transferIds (a ++ b) = transferIds a ++ transferIds b := by
  induction a with
  | nil => rfl
  | cons o os ih => cases o <;> simp [transferIds, ih]

/-- The emitted sequence as the peer reads it from next-outgoing-id `start`: transfer frames numbered
    consecutively (the first frame of a delivery carries its number as delivery-id), flow frames reporting
    the id of the next transfer frame.  `counters_exact_out` states it; C11 reads the delivery-ids off it. -/
def NoiOk : Nat → List Out → Prop
  | _, [] => True
  | start, .transfer tid did _ x :: os =>
      tid = start ∧ did = (if x.hasTag then some start else none) ∧ NoiOk (wadd32 start 1) os
  | start, .flow _ _ noi _ _ :: os => noi = start ∧ NoiOk start os

/-- next-outgoing-id after the emitted sequence -/
def advNoi : Nat → List Out → Nat
  | a, [] => a
  | a, .transfer _ _ _ _ :: os => advNoi (wadd32 a 1) os
  | a, .flow _ _ _ _ _ :: os => advNoi a os

theorem NoiOk_append (xs ys : List Out) : ∀ a, NoiOk a xs → NoiOk (advNoi a xs) ys → NoiOk a (xs ++ ys) := by
  induction xs with
  | nil => intro a _ h; exact h
  | cons o os ih =>
    intro a h1 h2
    cases o with
    | transfer tid did r x => exact ⟨h1.1, h1.2.1, ih _ h1.2.2 h2⟩
    | flow a1 a2 a3 a4 a5 => exact ⟨h1.1, ih _ h1.2 h2⟩

theorem advNoi_append (xs ys : List Out) : ∀ a, advNoi a (xs ++ ys) = advNoi (advNoi a xs) ys := by
  induction xs with
  | nil => intro a; rfl
  | cons o os ih => intro a; cases o <;> exact ih _

def uids : List Out → List Nat
  | [] => []
  | .transfer _ _ _ x :: os => x.uid :: uids os
  | _ :: os => uids os

theorem uids_append (a b : List Out) : uids (a ++ b) = uids a ++ uids b := by
  induction a with
  | nil => rfl
  | cons o os ih => cases o <;> simp [uids, ih]

def bufUids (s : St) : List Nat := s.buf.map (·.uid)

def reqOf : Op → List Nat
  | .outXfer x => [x.uid]
  | _ => []

/-- frames are held back only while the window is believed closed -/
def Closed (s : St) : Prop := s.buf ≠ [] → s.riw = 0

/-- specification of next-incoming-id: the peer's last stated next-outgoing-id
    advanced by one per transfer frame received since -/
def niiSpec (nii : Nat) : Op → Nat
  | .inBegin noi _ _ => noi
  | .inFlow f => f.noi
  | .inXfer => wadd32 nii 1
  | _ => nii

def flowNiis : List Out → List Nat
  | [] => []
  | .flow nii _ _ _ _ :: os => nii :: flowNiis os
  | _ :: os => flowNiis os

theorem flowNiis_append (a b : List Out) : flowNiis (a ++ b) = flowNiis a ++ flowNiis b := by
  induction a with
  | nil => rfl
  | cons o os ih => cases o <;> simp [flowNiis, ih]

theorem sendInner_eq (s : St) (x : Xfer) :
    sendInner s x = ({ s with noi := wadd32 s.noi 1, riw := s.riw - 1 },
      .transfer s.noi (if x.hasTag then some s.noi else none) (x.hasTag && !(x.settled.getD false)) x) := rfl

theorem sendInner_inv (s : St) (w : Win) (x : Xfer) (h : SInv s w) (hopen : 0 < s.riw) :
    SInv (sendInner s x).1 w ∧ transferIds [(sendInner s x).2] = [s.noi] ∧
      inWindow w.base w.len s.noi := by
  obtain ⟨hin, hfit⟩ := window_step h.len_lt hopen (h.fits.resolve_left (Nat.ne_of_gt hopen))
  refine ⟨⟨?_, h.init_lt, h.base_lt, h.len_lt, .inr ?_⟩, rfl, hin⟩
  · simp only [sendInner, on_outgoing_transfer_inner.assign_next_outgoing_id_0]
    exact wadd32_lt _ _
  · simp only [sendInner, on_outgoing_transfer_inner.assign_next_outgoing_id_0,
      on_outgoing_transfer_inner.assign_remote_incoming_window_0, ssub32]
    exact hfit

theorem sendInner_fields (s : St) (x : Xfer) :
    (sendInner s x).1.initOid = s.initOid ∧ (sendInner s x).1.buf = s.buf ∧
    (sendInner s x).1.nii = s.nii ∧ (sendInner s x).1.iw = s.iw ∧ (sendInner s x).1.ow = s.ow ∧
    (sendInner s x).1.mapped = s.mapped :=
  ⟨rfl, rfl, rfl, rfl, rfl, rfl⟩

/-- What the drain loop, run from `s` on the queue `l`, returns (`r`): the first `remote-incoming-window`
    frames of the queue sent, numbered consecutively from next-outgoing-id, the rest held. -/
structure Drained (s : St) (l : List Xfer) (r : St × List Out) : Prop where
  fifo : uids r.2 ++ bufUids r.1 = l.map (·.uid)
  closed : Closed r.1
  count : (transferIds r.2).length = Nat.min s.riw l.length
  noiOk : NoiOk s.noi r.2
  noi : r.1.noi = advNoi s.noi r.2
  nii : r.1.nii = s.nii
  noFlow : ∀ n, n ∉ flowNiis r.2
  initOid : r.1.initOid = s.initOid
  inv : ∀ w, SInv s w → SInv r.1 w ∧ ∀ t ∈ transferIds r.2, inWindow w.base w.len t

theorem drainBuf_spec (l : List Xfer) (s : St) : Drained s l (drainBuf s l) := by
  fun_induction drainBuf s l with
  | case1 s =>
    exact {
      fifo := rfl
      closed := fun h => absurd rfl h
      count := (Nat.min_zero _).symm
      noiOk := trivial
      noi := rfl
      nii := rfl
      noFlow := nofun
      initOid := rfl
      inv := fun w h => ⟨⟨h.1, h.2, h.3, h.4, h.5⟩, nofun⟩ }
  | case2 s x rest hopen s1 o h1 s2 os h2 ih =>
    -- window open: `x` goes out, and the rest is drained with a window one smaller and the next id
    have hpos := of_decide_eq_true hopen
    rw [sendInner_eq] at h1
    cases h1
    rw [h2] at ih
    exact {
      fifo := congrArg (x.uid :: ·) ih.fifo
      closed := ih.closed
      count := by
        -- `min (k + 1) (n + 1) = min k n + 1`
        rw [← Nat.sub_add_cancel hpos]
        exact (congrArg (· + 1) ih.count).trans (Nat.succ_min_succ _ _).symm
      noiOk := ⟨rfl, rfl, ih.noiOk⟩
      noi := ih.noi
      nii := ih.nii
      noFlow := ih.noFlow
      initOid := ih.initOid
      inv := fun w h => by
        obtain ⟨hi, _, hw⟩ := sendInner_inv s w x h hpos
        exact ⟨(ih.inv w hi).1, fun t ht => (List.mem_cons.mp ht).elim (· ▸ hw) ((ih.inv w hi).2 t)⟩ }
  | case3 s x rest hshut =>
    have h0 := Nat.eq_zero_of_not_pos fun h => hshut (decide_eq_true h)
    exact {
      fifo := rfl
      closed := fun _ => h0
      count := by rw [h0]; exact (Nat.zero_min _).symm
      noiOk := trivial
      noi := rfl
      nii := rfl
      noFlow := nofun
      initOid := rfl
      inv := fun w h => ⟨⟨h.1, h.2, h.3, h.4, h.5⟩, nofun⟩ }

theorem drainBuf_fields (l : List Xfer) : ∀ (s : St),
    (drainBuf s l).1.initOid = s.initOid :=
  fun s => (drainBuf_spec l s).initOid

/-- with the window closed or nothing to look at, the loop only records what is held -/
theorem drainBuf_idle (s : St) (l : List Xfer) (h : s.riw = 0 ∨ l = []) : drainBuf s l = ({ s with buf := l }, []) := by
  cases l with
  | nil => rfl
  | cons x rest =>
    rw [drainBuf, prepare_buffered.let_window_open_0, h.resolve_right (List.cons_ne_nil _ _)]
    rfl

/-- one more frame at the end of the queue: it goes out if the window is still open once the queue is
    drained, and is held behind what is left otherwise — the last arm of `onOutgoingTransfer` -/
theorem drainBuf_snoc (x : Xfer) (l : List Xfer) (s : St) :
    drainBuf s (l ++ [x]) =
      let (s1, os) := drainBuf s l
      if prepare_buffered_and_current.cond_if_0 s1.riw then
        let (s2, o) := sendInner s1 x
        (s2, os ++ [o])
      else ({ s1 with buf := s1.buf ++ [x] }, os) := by
  fun_induction drainBuf s l with
  | case1 s => rfl
  | case2 s y rest hopen s1 o h1 s2 os h2 ih =>
    rw [h2] at ih
    simp only [List.cons_append, drainBuf, hopen, if_true, h1, ih]
    split <;> rfl
  | case3 s y rest hshut =>
    rw [List.cons_append, drainBuf, if_neg hshut]
    exact (if_neg hshut).symm

theorem onOutgoingTransfer_eq (s : St) (x : Xfer) :
    onOutgoingTransfer s x = drainBuf s (s.buf ++ [x]) := by
  rw [drainBuf_snoc]
  unfold onOutgoingTransfer
  -- the first two arms are the last one with an idle drain
  split
  · next hz =>
    rw [drainBuf_idle s s.buf (.inl (eq_of_beq hz))]
    exact (if_neg (by rw [eq_of_beq hz]; decide)).symm
  · split
    · next hz hb =>
      rw [drainBuf_idle s s.buf (.inr (List.isEmpty_iff.mp hb))]
      exact (if_pos (decide_eq_true (Nat.pos_of_ne_zero fun h => hz (beq_iff_eq.mpr h)))).symm
    · rfl

theorem onIncomingFlow_eq (s : St) (f : InFlow) :
    onIncomingFlow s f =
      ((drainBuf (applyFlow s f) s.buf).1, echoOut (applyFlow s f) f ++ (drainBuf (applyFlow s f) s.buf).2) := by
  simp only [onIncomingFlow]
  split
  · rfl
  · next hc =>
    -- the window is closed or nothing is held
    simp [on_incoming_flow.cond_if_0] at hc
    rw [drainBuf_idle _ s.buf ((Nat.eq_zero_or_pos _).imp_right hc)]
    exact Prod.ext rfl (List.append_nil _).symm

theorem onIncomingTransfer_eq (s : St) : ∃ (nfc : Nat) (fl : List Out),
    onIncomingTransfer s = ({ s with nii := wadd32 s.nii 1, row := s.row - 1, nfc := nfc }, fl) ∧
    (fl = [] ∨ fl = [.flow (wadd32 s.nii 1) s.iw s.noi s.ow false]) := by
  unfold onIncomingTransfer
  by_cases c : (s.mapped && maybe_outgoing_session_flow.cond_if_1 s.iw
    (on_incoming_transfer.assign_need_flow_count_0 s.nfc)) = true
  · exact ⟨_, _, if_pos c, .inr rfl⟩
  · exact ⟨_, _, if_neg c, .inl rfl⟩

/-- what the recomputed window is: the advertised window minus the frames the
    peer had not yet seen when it sent the flow (serial distance), floored at 0 -/
theorem window_formula (s : St) (f : InFlow) :
    (applyFlow s f).riw = f.iw - sdist (f.nif.getD s.initOid) s.noi := by
  cases hn : f.nif <;>
    simp [applyFlow, hn, on_incoming_flow_inner.assign_remote_incoming_window_0,
      on_incoming_flow_inner.assign_remote_incoming_window_1, ssub32, sdist]

theorem applyFlow_inv (s : St) (w : Win) (f : InFlow) (h : SInv s w) (hwf : (Op.inFlow f).WF) :
    SInv (applyFlow s f) ⟨f.nif.getD s.initOid, f.iw⟩ := by
  refine ⟨h.1, h.2, ?_, hwf.2.1, ?_⟩
  · cases hn : f.nif with
    | none => exact h.2
    | some n => exact hwf.1 n hn
  · rw [window_formula]
    exact window_rest _ _

/-- What one operation does to `s` (`r` is what `step` returns): each field is a theorem of C07 for a
    history of one operation. -/
structure Stepped (s : St) (op : Op) (r : St × List Out) : Prop where
  fifo : uids r.2 ++ bufUids r.1 = bufUids s ++ reqOf op
  noiOk : NoiOk s.noi r.2
  noi : r.1.noi = advNoi s.noi r.2
  nii : r.1.nii = niiSpec s.nii op
  flows : ∀ n ∈ flowNiis r.2, n = niiSpec s.nii op
  closed : op.WF → Closed s → Closed r.1
  inv : op.WF → ∀ w, SInv s w → SInv r.1 (winAfter s w op) ∧
    ∀ t ∈ transferIds r.2, inWindow (winAfter s w op).base (winAfter s w op).len t

/-- a flow frame that states the counters as they are, put in front of what is emitted, changes nothing else -/
theorem Stepped.flow {s : St} {op : Op} {r : St × List Out} (h : Stepped s op r) (iw ow : Nat) (link : Bool) :
    Stepped s op (r.1, .flow (niiSpec s.nii op) iw s.noi ow link :: r.2) :=
  { h with
    noiOk := ⟨rfl, h.noiOk⟩
    flows := fun n hn => (List.mem_cons.mp hn).elim id (h.flows n) }

theorem step_spec (s : St) (op : Op) : Stepped s op (step s op) := by
  cases op with
  | outXfer x =>
    have d := drainBuf_spec (s.buf ++ [x]) s
    rw [step, onOutgoingTransfer_eq]
    exact {
      fifo := d.fifo.trans (List.map_append ..)
      noiOk := d.noiOk
      noi := d.noi
      nii := d.nii
      flows := fun n h => (d.noFlow n h).elim
      closed := fun _ _ => d.closed
      inv := fun _ => d.inv }
  | inFlow f =>
    have d := drainBuf_spec s.buf (applyFlow s f)
    have hs : Stepped s (.inFlow f) (drainBuf (applyFlow s f) s.buf) := {
      fifo := d.fifo.trans (List.append_nil _).symm
      noiOk := d.noiOk
      noi := d.noi
      nii := d.nii
      flows := fun n h => (d.noFlow n h).elim
      closed := fun _ _ => d.closed
      inv := fun hwf w h => d.inv _ (applyFlow_inv s w f h hwf) }
    rw [step, onIncomingFlow_eq, echoOut]
    split
    · exact hs.flow _ _ true
    · exact hs
  | inXfer =>
    obtain ⟨nfc, fl, e, hfl⟩ := onIncomingTransfer_eq s
    have hs : Stepped s .inXfer ({ s with nii := wadd32 s.nii 1, row := s.row - 1, nfc := nfc }, []) := {
      fifo := (List.append_nil _).symm
      noiOk := trivial
      noi := rfl
      nii := rfl
      flows := nofun
      closed := fun _ h => h
      inv := fun _ w h => ⟨⟨h.1, h.2, h.3, h.4, h.5⟩, nofun⟩ }
    rw [step, e]
    rcases hfl with rfl | rfl
    · exact hs
    · exact hs.flow _ _ false
  | inBegin noi iw ow =>
    exact {
      fifo := (List.append_nil _).symm
      noiOk := trivial
      noi := rfl
      nii := rfl
      flows := nofun
      closed := False.elim
      inv := False.elim }
  | outLinkFlow =>
    have hs : Stepped s .outLinkFlow (s, []) := {
      fifo := (List.append_nil _).symm
      noiOk := trivial
      noi := rfl
      nii := rfl
      flows := nofun
      closed := fun _ h => h
      inv := fun _ w h => ⟨h, nofun⟩ }
    exact hs.flow _ _ true

end Amqp.Session
