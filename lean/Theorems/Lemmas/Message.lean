/-
  Helper lemmas for `Amqp.Message`: reading back what was written, section by section.
-/
import Theorems.Lemmas.Typed
import Amqp.Message

namespace Amqp.Message
open Amqp.Codec Amqp.Typed Amqp.Gen.Codes

theorem readAll_encAll (f : Bytes → Res (Value × Bytes)) : ∀ (ss : List Value) (e : Bytes) (fuel : Nat),
    (∀ v ∈ ss, ∀ (ev tail : Bytes), enc .none v = some ev → f (ev ++ tail) = .ok (v, tail) ∧ 1 ≤ ev.length) →
    encAll ss = some e → e.length ≤ fuel → readAll f fuel e = .ok ss
  | [], _, fuel, _, rfl, _ => by cases fuel <;> rfl
  | v :: vs, e, fuel, hf, he, hfuel => by
    obtain ⟨ev, hv, evs, hvs, rfl⟩ := encAll_cons_some.1 he
    obtain ⟨h1, h2⟩ := hf v List.mem_cons_self ev evs hv
    cases ev with
    | nil => simp at h2
    | cons b bs =>
      cases fuel with
      | zero => simp at hfuel
      | succ n =>
        have ih := readAll_encAll f vs evs n (fun w hw => hf w (List.mem_cons_of_mem _ hw)) hvs
          (by simp only [List.cons_append, List.length_cons, List.length_append] at hfuel; omega)
        rw [List.cons_append] at h1 ⊢
        simp only [readAll, h1, ih]

theorem kindOf_code (k : SKind) : kindOf (.fixed .ulong (be64 k.code)) = some k := by
  cases k <;> decide

theorem classify_append (env : List Schema) : ∀ (a b : List Value) (acc : Acc),
    classify env (a ++ b) acc = (classify env a acc).bind (classify env b)
  | [], b, acc => by simp [classify]
  | s :: ss, b, acc => by
    simp only [List.cons_append, classify]
    cases assign env acc s with
    | none => simp
    | some acc' => simp only []; exact classify_append env ss b acc'

theorem classify_optL {α : Type} (env : List Schema) (f : α → Value) (o : Option α) (acc : Acc)
    (upd : Acc → Option α → Acc) (hupd : ∀ a, o = some a → assign env acc (f a) = some (upd acc (some a)))
    (hnone : upd acc none = acc) : classify env ((optL o).map f) acc = some (upd acc o) := by
  cases o with
  | none => simp [optL, classify, hnone]
  | some a => simp [optL, classify, hupd a rfl]

theorem mem_optL {α : Type} {a : α} {o : Option α} : a ∈ optL o ↔ o = some a := by
  cases o <;> simp [optL, eq_comm]

/-- a map under the descriptor of one of the four sections that hold a map is stored in its place -/
theorem assign_map (env : List Schema) (acc : Acc) (p : Value) (h : isMap p = true) :
    assign env acc (basic .deliveryAnn p) = some { acc with deliveryAnn := some p } ∧
    assign env acc (basic .msgAnn p) = some { acc with msgAnn := some p } ∧
    assign env acc (basic .appProps p) = some { acc with appProps := some p } ∧
    assign env acc (basic .footer p) = some { acc with footer := some p } := by
  simp [assign, basic, kindOf_code, h]

theorem assign_value (env : List Schema) (acc : Acc) (v : Value) :
    assign env acc (basic .value v) = some { acc with body := some (.value v) } := by
  simp [assign, basic, kindOf_code]

theorem assign_data (env : List Schema) (acc : Acc) (b : Bytes) :
    assign env acc (basic .data (.var .binary b)) =
      some { acc with body := some (addData acc.body b) } := by
  simp [assign, basic, kindOf_code]

theorem assign_sequence (env : List Schema) (acc : Acc) (vs : List Value) :
    assign env acc (basic .sequence (.list vs)) =
      some { acc with body := some (addSequence acc.body vs) } := by
  simp [assign, basic, kindOf_code]

/-- sections that add to the body read so far (data, amqp-sequence): `sec` is the section of one
    entry, `wrap` the body the entries make, `add` the step of the visitor -/
theorem classify_body {β : Type} (env : List Schema) (sec : β → Value) (wrap : List β → Body)
    (add : Option Body → β → Body)
    (hassign : ∀ acc b, assign env acc (sec b) = some { acc with body := some (add acc.body b) })
    (hadd : ∀ l b, add (some (wrap l)) b = wrap (l ++ [b])) :
    ∀ (bs : List β) (acc : Acc) (l : List β), acc.body = some (wrap l) →
      classify env (bs.map sec) acc = some { acc with body := some (wrap (l ++ bs)) }
  | [], acc, l, h => by cases acc; simp_all [classify]
  | b :: bs, acc, l, h => by
    simp only [List.map_cons, classify, hassign, h, hadd]
    rw [classify_body env sec wrap add hassign hadd bs _ (l ++ [b]) rfl]
    simp [List.append_assoc]

end Amqp.Message
