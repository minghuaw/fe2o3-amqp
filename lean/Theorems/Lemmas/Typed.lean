/-
  Lemmas for the typed layer (`Amqp.Typed`): the derive macro's null-buffering loop, well-typed values
  (`TVOk`; the two inductions over them go by `TVOk.mutual_induct`), the environment of schemas, and the
  tree-level round trip for every variant a peer may write.
-/
import Theorems.Lemmas.CodecWF
import Theorems.Lemmas.List
import Amqp.Typed

namespace Amqp.Typed
open Amqp.Codec Amqp.Gen.Codes

/-- the field loop of the generated `serialize`, seen from the values of the slots -/
def serSlots : List Value → SerSt → Option SerSt
  | [], st => some st
  | v :: vs, st =>
    if isNull v then serSlots vs (serField st none)
    else match enc .none v with
      | none => none
      | some e => serSlots vs (serField st (some e))

theorem dtn_cons (v : Value) (vs : List Value) :
    dropTrailingNulls (v :: vs) =
      if dropTrailingNulls vs = [] ∧ isNull v = true then [] else v :: dropTrailingNulls vs := by
  simp only [dropTrailingNulls]
  cases dropTrailingNulls vs <;> cases isNull v <;> simp

theorem isNull_eq (v : Value) (h : isNull v = true) : v = .null := by
  cases v <;> simp [isNull] at h ⊢

/-- The state after the slots `vs`.  The loop holds nulls back and flushes them only when a value
    follows: the buffer has grown by the pending nulls of `st` and the encodings of the slots up to the
    last one that is not null, `count` by their number, and `nulls` counts the nulls after that one.
    When every slot is null nothing is flushed, and they all join the pending ones. -/
theorem serSlots_eq : ∀ (vs : List Value) (st : SerSt), serSlots vs st =
    (match encAll (dropTrailingNulls vs) with
     | none => none
     | some es => some (if (dropTrailingNulls vs).isEmpty then ⟨st.buf, st.count, st.nulls + vs.length⟩
        else ⟨st.buf ++ List.replicate st.nulls (b8 cNull) ++ es,
              st.count + st.nulls + (dropTrailingNulls vs).length,
              vs.length - (dropTrailingNulls vs).length⟩)) := by
  intro vs st
  fun_induction serSlots vs st with
  | case1 st => simp [dropTrailingNulls, encAll]
  | case2 v vs st hv ih =>
    obtain rfl := isNull_eq v hv
    rw [ih, dtn_cons]
    cases dropTrailingNulls vs with
    | nil =>
      simp [encAll, serField, isNull]
      omega
    | cons r rs =>
      simp only [List.cons_ne_nil, false_and, if_false, encAll_cons .null, enc_null, serField]
      cases encAll (r :: rs) <;> simp [List.replicate_succ']
      omega
  | case3 v vs st hv he =>
    rw [dtn_cons]
    simp [hv, encAll_cons, he]
  | case4 v vs st hv e he ih =>
    rw [ih, dtn_cons, if_neg (fun h => hv h.2)]
    cases dropTrailingNulls vs with
    | nil => simp [encAll, he, serField]
    | cons r rs =>
      simp only [encAll_cons v, he, serField]
      cases encAll (r :: rs) <;> simp
      omega

theorem serSlots_init (vs : List Value) : serSlots vs ⟨[], 0, 0⟩ =
    (encAll (dropTrailingNulls vs)).map fun es =>
      ⟨es, (dropTrailingNulls vs).length, vs.length - (dropTrailingNulls vs).length⟩ := by
  rw [serSlots_eq]
  cases hd : dropTrailingNulls vs with
  | nil => simp [encAll]
  | cons r rs => cases encAll (r :: rs) <;> simp

/-- what a field of each kind may hold (`ok`: the value is of the field's type) -/
def FieldOk1 (f : Field) (t : TV) (ok : Prop) : Prop :=
  match f.kind with
  | .required => ok
  | .optional => t = .absent ∨ ok
  | .dflt => (∃ v, t = .leaf v) ∧ ok
  | .multiple => t = .absent ∨ (ok ∧ t ≠ .leaf (.array []))

mutual
  /-- `tv` is a value of type `ty`: leaves are values their typed decoder yields, composites
      are declared, allowed in this place, and hold one well-typed entry per declared field -/
  def TVOk (env : List Schema) : FTy → TV → Prop
    | _, .absent => False
    | ty, .leaf v => ∃ p, ty = .prim p ∧ accepts p v = some v ∧ WF v
    | ty, .comp n fs => ∃ names, ty = .comp names ∧ names.contains n = true ∧
        (match lookup env n with
         | none => False
         | some s => FieldsOk env s.fields fs)
  def FieldsOk (env : List Schema) : List Field → List TV → Prop
    | [], [] => True
    | f :: fs, t :: ts => FieldOk1 f t (TVOk env f.ty t) ∧ FieldsOk env fs ts
    | _, _ => False
end

theorem accepts_some (p : Prim) (u w : Value) (h : accepts p u = some w) :
    isNull u = false ∧ accepts p w = some w := by
  unfold accepts at h
  split at h <;> (try split at h) <;> simp at h <;> subst h <;> simp_all [accepts, allSymbols, isNull]

theorem accepts_idem (p : Prim) (u w : Value) (h : accepts p u = some w) : accepts p w = some w :=
  (accepts_some p u w h).2

theorem TVOk.comp_mono {env : List Schema} {names names' : List String} {n : String} {fs : List TV}
    (h : TVOk env (.comp names) (.comp n fs)) (hn : names'.contains n = true) :
    TVOk env (.comp names') (.comp n fs) := by
  obtain ⟨_, _, _, hl⟩ := h
  exact ⟨names', rfl, hn, hl⟩

theorem FieldOk1.cases {f : Field} {t : TV} {ok : Prop} (h : FieldOk1 f t ok) :
    (t = .absent ∧ (f.kind = .optional ∨ f.kind = .multiple)) ∨
    (ok ∧ (f.kind = .dflt → ∃ v, t = .leaf v) ∧ (f.kind = .multiple → t ≠ .leaf (.array []))) := by
  unfold FieldOk1 at h
  cases hk : f.kind <;> simp only [hk] at h <;> simp
  · exact h
  · exact h.imp_left id
  · exact ⟨h.2, h.1⟩
  · exact h

theorem slotOf_absent (f : Field) : slotOf f .null = .null := by
  unfold slotOf; split <;> simp

/-- the slot of a field holds null exactly when the encoder elides the field -/
theorem slotOf_toTree (env : List Schema) (f : Field) (t : TV) (hd : f.kind = .dflt → ∃ v, t = .leaf v) :
    slotOf f (toTree env t) = if elided f t then .null else toTree env t := by
  cases t with
  | absent => simp [elided, toTree, slotOf_absent]
  | leaf v =>
    unfold slotOf elided
    split <;> rfl
  | comp n gs =>
    unfold slotOf
    split
    · obtain ⟨v, hv⟩ := hd ‹_›
      cases hv
    · rfl

theorem toTree_ne_null {env : List Schema} {ty : FTy} {t : TV} (h : TVOk env ty t) :
    isNull (toTree env t) = false := by
  cases t with
  | absent => simp [TVOk] at h
  | leaf v =>
    obtain ⟨p, _, hacc, _⟩ := h
    exact (accepts_some p v v hacc).1
  | comp n gs =>
    obtain ⟨_, _, _, hl⟩ := h
    split at hl
    · exact hl.elim
    · rename_i hlk
      simp [toTree, hlk, isNull]

theorem encTV_encFields_eq (env : List Schema) :
    (∀ ty tv, TVOk env ty tv → encTV env tv = enc .none (toTree env tv)) ∧
    (∀ fs ts, FieldsOk env fs ts → ∀ st, encFields env fs ts st = serSlots (slots env fs ts) st) := by
  -- the arms of `TVOk` and `FieldsOk`: absent, a leaf, a composite; no field, a field, lists of unequal length
  refine TVOk.mutual_induct _ _ ?_ ?_ ?_ ?_ ?_ ?_
  · exact fun _ h => h.elim
  · intro _ v _
    simp [encTV, toTree]
  · intro _ n fs ih ⟨_, _, _, hl⟩
    split at hl
    · exact hl.elim
    · rename_i s hlk
      simp only [encTV, toTree, hlk, ih s hl, serSlots_init, enc, Option.bind_eq_bind, Option.bind_some]
      cases encAll (dropTrailingNulls (slots env s.fields fs)) with
      | none => rfl
      | some es =>
        simp only [Option.map_some, Option.bind_some]
        cases writeList .none (dropTrailingNulls (slots env s.fields fs)).length es <;> rfl
  · intro _ st
    simp [encFields, slots, serSlots]
  · intro f fs t ts iht ih ⟨h1, h2⟩ st
    rcases h1.cases with ⟨rfl, _⟩ | ⟨hok, hd, _⟩
    · simp [encFields, slots, serSlots, elided, toTree, slotOf_absent, isNull, ih h2]
    · simp only [encFields, slots, serSlots, slotOf_toTree env f t hd]
      by_cases he : elided f t = true
      · simp only [he, isNull, if_true, ih h2]
      · simp only [he, toTree_ne_null hok, iht hok, Bool.false_eq_true, if_false]
        cases enc .none (toTree env t) <;> simp [ih h2]
  · intro ts fs h1 h2 h
    rw [FieldsOk.eq_3 env fs ts h1 h2] at h
    exact h.elim

theorem encFields_eq (env : List Schema) : ∀ (ts : List TV) (fs : List Field), FieldsOk env fs ts →
      ∀ (st : SerSt), encFields env fs ts st = serSlots (slots env fs ts) st :=
  fun ts fs => (encTV_encFields_eq env).2 fs ts

theorem elabAll_eq_filterMap : ∀ gs, elabAll gs = (gs.filter isListSchema).filterMap elabSchema
  | [] => rfl
  | g :: gs => by
    rw [elabAll, elabAll_eq_filterMap gs, List.filter_cons]
    cases isListSchema g <;> cases he : elabSchema g <;> simp [he]

structure EnvOk (env : List Schema) : Prop where
  /-- a descriptor designates one schema, whether it is read as a code or as a symbol: a symbol
      is compared with the bytes of the name (`descriptorMatches`), and `nameBytes` keeps only the low
      byte of a character, so distinct names need not have distinct bytes -/
  distinct : env.Pairwise (fun a b => a.name ≠ b.name ∧ a.code ≠ b.code ∧ nameBytes a.name ≠ nameBytes b.name)
  codes : ∀ s ∈ env, s.code < 18446744073709551616
  /-- a default is a value of the field's own type (`TVOk env f.ty (.leaf f.dflt)`): a null slot is read as it -/
  dflts : ∀ s ∈ env, ∀ f ∈ s.fields, f.kind = .dflt →
    ∃ p, f.ty = .prim p ∧ accepts p f.dflt = some f.dflt ∧ WF f.dflt
  sizes : ∀ s ∈ env, s.fields.length ≤ MAX_ARRAY_COUNT
  names : ∀ s ∈ env, validUtf8 (nameBytes s.name) = true ∧ (nameBytes s.name).length < 4294967296

theorem lookup_some (env : List Schema) (n : String) (s : Schema) (h : lookup env n = some s) :
    s ∈ env ∧ s.name = n :=
  List.find?_key_some h

theorem EnvOk.name_inj {env : List Schema} (hE : EnvOk env) :
    ∀ a ∈ env, ∀ b ∈ env, a.name = b.name → a = b :=
  List.Pairwise.forall_of_forall_of_flip (fun _ _ _ => rfl) (hE.distinct.imp fun h e => absurd e h.1)
    (hE.distinct.imp fun h e => absurd e.symm h.1)

/-- names designate one schema, so the schema found under a name is the one found by its code -/
theorem EnvOk.code_of_lookup {env : List Schema} (hE : EnvOk env) {n : String} {c : Nat}
    (h : (env.find? (·.code == c)).map (·.name) = some n) (s : Schema) (hs : lookup env n = some s) :
    s.code = c := by
  obtain ⟨s0, h0, rfl⟩ := Option.map_eq_some_iff.mp h
  obtain ⟨hm, hn⟩ := lookup_some env _ s hs
  obtain ⟨hm0, hc0⟩ := List.find?_key_some h0
  rw [hE.name_inj s hm s0 hm0 hn, hc0]

theorem fromBe_be64 (n : Nat) (h : n < 18446744073709551616) : fromBe (be64 n) = n := by
  unfold be64
  rw [fromBe_append, fromBe_be32 _ (by omega), fromBe_be32 _ (by omega)]
  simp only [be32_length]
  omega

theorem be64_length (n : Nat) : (be64 n).length = 8 := by simp [be64, be32_length]

theorem not_or_lt (x y : UInt8) (hy : 128 ≤ y) : ¬ (x ||| y < 128) := by
  rw [UInt8.le_iff_toNat_le] at hy
  rw [UInt8.lt_iff_toNat_lt, UInt8.toNat_or]
  have := @Nat.right_le_or x.toNat y.toNat
  omega

theorem utf8EncodeChar_ascii (c : Char) (h : ∀ b ∈ String.utf8EncodeChar c, b < 128) :
    String.utf8EncodeChar c = [b8 c.toNat] := by
  rcases c.utf8Size_eq with h1 | h1 | h1 | h1
  · rw [String.utf8EncodeChar_eq_singleton h1]; rfl
  · rw [String.utf8EncodeChar_eq_cons_cons h1] at h
    exact absurd (h _ List.mem_cons_self) (not_or_lt _ _ (by decide))
  · rw [String.utf8EncodeChar_eq_cons_cons_cons h1] at h
    exact absurd (h _ List.mem_cons_self) (not_or_lt _ _ (by decide))
  · rw [String.utf8EncodeChar_eq_cons_cons_cons_cons h1] at h
    exact absurd (h _ List.mem_cons_self) (not_or_lt _ _ (by decide))

/-- The bytes of an ASCII name are the string's own bytes.  A checker evaluated by the kernel reads
    names through this: `String.toList` decodes UTF-8 character by character, which costs the kernel
    several times what reading the byte array does. -/
theorem nameBytes_ascii (s : String) (h : ∀ b ∈ s.toByteArray.data.toList, b < 128) :
    nameBytes s = s.toByteArray.data.toList := by
  rw [← String.utf8Encode_toList, List.utf8Encode, List.toList_data_toByteArray] at h ⊢
  rw [nameBytes, List.map_eq_flatMap, List.flatMap_def, List.flatMap_def]
  exact congrArg _ (List.map_congr_left fun c hc =>
    (utf8EncodeChar_ascii c fun b hb => h b (List.mem_flatMap.mpr ⟨c, hc, hb⟩)).symm)

/-- the schema a composite was written with is the one its descriptor is read as -/
theorem find_schema (env : List Schema) (hE : EnvOk env) (names : List String) (s : Schema) (hs : s ∈ env)
    (hn : names.contains s.name = true) (d : Value)
    (hd : d = .fixed .ulong (be64 s.code) ∨ d = .var .symbol (nameBytes s.name)) :
    env.find? (fun s' => names.contains s'.name && descriptorMatches s' d) = some s := by
  -- `d` matches `s`, and besides `s` only schemas with the same code or the same bytes of the name
  have hm : descriptorMatches s d = true ∧
      ∀ b, descriptorMatches b d = true → s.code = b.code ∨ nameBytes s.name = nameBytes b.name := by
    rcases hd with rfl | rfl <;> simp +contextual [descriptorMatches, fromBe_be64 _ (hE.codes s hs)]
  apply List.find?_unique _ _ env hE.distinct s hs
  · rw [hn, hm.1]
    rfl
  · intro b _ hb
    rcases hm.2 b (Bool.and_eq_true_iff.mp hb).2 with h | h
    · exact ⟨fun r => r.2.1 h, fun r => r.2.1 h.symm⟩
    · exact ⟨fun r => r.2.2 h, fun r => r.2.2 h.symm⟩

theorem fromSlots_nil (env : List Schema) (fs : List Field) : fromSlots env fs [] = missingAll fs := by
  cases fs <;> simp [fromSlots]

theorem fromSlots_nulls (env : List Schema) : ∀ (k : Nat) (fs : List Field), k ≤ fs.length →
    fromSlots env fs (List.replicate k .null) = missingAll fs
  | 0, fs, _ => by simp [fromSlots_nil]
  | k + 1, f :: fs, h => by
    simp only [List.replicate_succ, fromSlots, fromSlots_nulls env k fs (by simpa using h), isNull, if_true,
      missingAll]

theorem fromSlots_pad (env : List Schema) : ∀ (vs : List Value) (fs : List Field) (k : Nat),
    vs.length + k ≤ fs.length → fromSlots env fs (vs ++ List.replicate k .null) = fromSlots env fs vs
  | [], fs, k, h => by
    exact fromSlots_nulls env k fs (by simpa using h)
  | v :: vs, [], k, h => by simp at h
  | v :: vs, f :: fs, k, h => by
    simp only [List.cons_append, fromSlots,
      fromSlots_pad env vs fs k (by simp only [List.length_cons] at h; omega)]

theorem dtn_append_nulls : ∀ (vs : List Value),
    dropTrailingNulls vs ++ List.replicate (vs.length - (dropTrailingNulls vs).length) .null = vs
  | [] => by simp [dropTrailingNulls]
  | v :: vs => by
    have ih := dtn_append_nulls vs
    rw [dtn_cons]
    split
    · rename_i h
      rw [h.1] at ih
      rw [isNull_eq v h.2]
      simpa [List.replicate_succ] using ih
    · simpa using ih

theorem dtn_length_le (vs : List Value) : (dropTrailingNulls vs).length ≤ vs.length := by
  have h := congrArg List.length (dtn_append_nulls vs)
  simp only [List.length_append, List.length_replicate] at h
  omega

theorem dtn_cons_nil (v : Value) (vs : List Value) :
    dropTrailingNulls (v :: vs) = [] ↔ dropTrailingNulls vs = [] ∧ isNull v = true := by
  rw [dtn_cons]
  split <;> simp [*]

theorem dtn_nil_iff : ∀ (vs : List Value), dropTrailingNulls vs = [] ↔ ∀ v ∈ vs, isNull v = true
  | [] => by simp [dropTrailingNulls]
  | v :: vs => by simp [dtn_cons_nil, dtn_nil_iff vs, and_comm]

theorem fromSlots_padded (env : List Schema) (fs : List Field) (vs : List Value) (pad : Nat)
    (h : vs.length ≤ fs.length) :
    fromSlots env fs (padNulls pad (dropTrailingNulls vs) fs.length) = fromSlots env fs vs := by
  have hle := dtn_length_le vs
  unfold padNulls
  rw [fromSlots_pad env _ fs _ (by omega)]
  have h2 := fromSlots_pad env (dropTrailingNulls vs) fs (vs.length - (dropTrailingNulls vs).length) (by omega)
  rw [dtn_append_nulls] at h2
  exact h2.symm

theorem fromSlots_dtn (env : List Schema) (fs : List Field) (vs : List Value) (h : vs.length ≤ fs.length) :
    fromSlots env fs (dropTrailingNulls vs) = fromSlots env fs vs := by
  have := fromSlots_padded env fs vs 0 h
  simpa [padNulls] using this

theorem fromTree_prim (env : List Schema) (p : Prim) (u : Value) :
    fromTree env (.prim p) u = (accepts p u).map .leaf := by
  cases u <;> simp [fromTree]
  cases p <;> simp [accepts]

theorem fromTree_null (env : List Schema) (ty : FTy) : fromTree env ty .null = none := by
  cases ty with
  | prim p => rw [fromTree_prim]; cases p <;> rfl
  | comp _ => simp [fromTree]

theorem accepts_leafV (p : Prim) (single : Bool) (w : Value) (h : accepts p w = some w) :
    accepts p (leafV single w) = some w := by
  unfold leafV
  split
  · rename_i bs
    cases p <;> simp [accepts, allSymbols] at h ⊢
  · exact h

theorem slotsV_length_le (env : List Schema) : ∀ (fs : List Field) (ex : List Bool) (subs : List TCh)
    (ts : List TV), (slotsV env fs ex subs ts).length ≤ fs.length
  | [], _, _, _ => by simp [slotsV]
  | _ :: _, _, _, [] => by simp [slotsV]
  | _ :: fs, ex, subs, _ :: ts => Nat.succ_le_succ (slotsV_length_le env fs ex.tail subs.tail ts)

theorem normMultiple_id (f : Field) (t : TV) (h : f.kind = .multiple → t ≠ .leaf (.array [])) :
    normMultiple f t = t := by
  unfold normMultiple
  split
  · exact absurd rfl (h ‹_›)
  · rfl

/-- at a composite, the choice `.leaf _` is the choice that takes no liberty -/
theorem toTreeV_comp (env : List Schema) (ch : TCh) (n : String) (fs : List TV) :
    ∃ byName pad ex subs, toTreeV env ch (.comp n fs) = toTreeV env (.comp byName pad ex subs) (.comp n fs) := by
  cases ch with
  | comp a b c d => exact ⟨a, b, c, d, rfl⟩
  | leaf _ =>
    refine ⟨false, 0, [], [], ?_⟩
    simp only [toTreeV]
    cases lookup env n <;> simp [padNulls]

theorem slotV_null (f : Field) (e : Bool) : slotV f e .null = .null := by
  unfold slotV; split <;> simp

theorem slotV_cases (f : Field) (e : Bool) (v : Value) :
    (slotV f e v = .null ∧ f.kind = .dflt ∧ v = f.dflt) ∨ slotV f e v = v := by
  unfold slotV
  split
  · split
    · rename_i hk hb
      simp only [Bool.and_eq_true] at hb
      exact .inl ⟨rfl, hk, beq_eq _ _ hb.1⟩
    · exact .inr rfl
  · exact .inr rfl

theorem WFAll_dtn (vs : List Value) (h : WFAll vs) : WFAll (dropTrailingNulls vs) := by
  have := dtn_append_nulls vs
  rw [← this, WFAll_append] at h
  exact h.1

theorem WF_leafV (single : Bool) (w : Value) (h : WF w) : WF (leafV single w) := by
  unfold leafV
  split
  · simp only [WF, WFAll] at h
    exact h.1.1
  · exact h

/-- whatever the peer chooses, the tree written for a well-typed value is well-formed and is read back
    as that value -/
theorem WF_fromTree_toTreeV (env : List Schema) (hE : EnvOk env) :
    (∀ ty tv, TVOk env ty tv → ∀ ch, WF (toTreeV env ch tv) ∧ fromTree env ty (toTreeV env ch tv) = some tv) ∧
    (∀ fs ts, FieldsOk env fs ts → ∀ ex subs, WFAll (slotsV env fs ex subs ts) ∧
      ((∀ f ∈ fs, f.kind = .dflt → TVOk env f.ty (.leaf f.dflt)) →
        fromSlots env fs (slotsV env fs ex subs ts) = some ts)) := by
  refine TVOk.mutual_induct _ _ ?_ ?_ ?_ ?_ ?_ ?_
  · exact fun _ h => h.elim
  · intro _ v ⟨p, hty, hacc, hw⟩ ch
    rw [hty, fromTree_prim]
    cases ch <;> simp [toTreeV, accepts_leafV, hacc, WF_leafV, hw]
  · intro _ n fs ih ⟨names, hty, hn, hl⟩ ch
    split at hl
    · exact hl.elim
    · rename_i s hlk
      obtain ⟨hs, hname⟩ := lookup_some env n s hlk
      obtain ⟨byName, pad, ex, subs, h⟩ := toTreeV_comp env ch n fs
      have hlen := slotsV_length_le env s.fields ex subs fs
      rw [h, hty]
      simp only [toTreeV, hlk]
      constructor
      · have hnm := hE.names s hs
        have hle := dtn_length_le (slotsV env s.fields ex subs fs)
        have := hE.sizes s hs
        simp only [WF, padNulls, WFAll_append, List.length_append, List.length_replicate]
        refine ⟨?_, ?_, ⟨WFAll_dtn _ (ih s hl ex subs).1, WFAll_nulls _⟩, by omega⟩
        · cases byName <;> simp
        · cases byName <;> simp [WF, be64_length, hnm, FixedKind.width]
      · simp only [fromTree]
        rw [find_schema env hE names s hs (hname ▸ hn) _ (by cases byName <;> simp)]
        simp only [fromBody]
        rw [fromSlots_padded env s.fields _ pad hlen, (ih s hl ex subs).2 (hE.dflts s hs)]
        simp [hname]
  · intro _ _ _
    simp [slotsV, fromSlots, missingAll, WFAll]
  · intro f fs t ts iht ih ⟨h1, h2⟩ ex subs
    obtain ⟨hws, hrs⟩ := ih h2 ex.tail subs.tail
    rcases h1.cases with ⟨rfl, hk⟩ | ⟨hok, _, hm⟩
    · simp only [slotsV, toTreeV, slotV_null, WFAll, WF, true_and, fromSlots]
      refine ⟨hws, fun hd => ?_⟩
      rw [hrs (List.forall_mem_cons.mp hd).2]
      rcases hk with hk | hk <;> simp [isNull, missing, hk]
    · obtain ⟨hw, hu⟩ := iht hok (subs.headD (.leaf false))
      simp only [slotsV, WFAll, fromSlots]
      rcases slotV_cases f (ex.headD false) (toTreeV env (subs.headD (.leaf false)) t) with ⟨hs, hk, hb⟩ | hs
      · rw [hs]
        refine ⟨⟨trivial, hws⟩, fun hd => ?_⟩
        -- the default left null: the value read back for a missing field is the default itself
        obtain ⟨p, hty, hacc, _⟩ := (List.forall_mem_cons.mp hd).1 hk
        rw [hb, hty, fromTree_prim, hacc] at hu
        rw [hrs (List.forall_mem_cons.mp hd).2]
        simpa [isNull, missing, hk] using hu
      · rw [hs]
        refine ⟨⟨hw, hws⟩, fun hd => ?_⟩
        -- what is read as a value is not null
        have hnn : isNull (toTreeV env (subs.headD (.leaf false)) t) = false := by
          cases h : toTreeV env (subs.headD (.leaf false)) t <;> simp [isNull]
          rw [h, fromTree_null] at hu
          cases hu
        simp only [hrs (List.forall_mem_cons.mp hd).2, hnn, hu, Option.map_some, normMultiple_id f t hm,
          Bool.false_eq_true, if_false]
  · intro ts fs h1 h2 h
    rw [FieldsOk.eq_3 env fs ts h1 h2] at h
    exact h.elim

theorem typed_tree_variants_read_back (env : List Schema) (hE : EnvOk env) (ty : FTy) (tv : TV) (ch : TCh)
    (h : TVOk env ty tv) : fromTree env ty (toTreeV env ch tv) = some tv :=
  ((WF_fromTree_toTreeV env hE).1 ty tv h ch).2

theorem fromSlots_slotsV (env : List Schema) (hE : EnvOk env) : ∀ (ts : List TV) (fs : List Field)
      (ex : List Bool) (subs : List TCh), FieldsOk env fs ts →
      (∀ f ∈ fs, f.kind = .dflt → ∃ p, f.ty = .prim p ∧ accepts p f.dflt = some f.dflt ∧ WF f.dflt) →
      fromSlots env fs (slotsV env fs ex subs ts) = some ts :=
  fun ts fs ex subs h => ((WF_fromTree_toTreeV env hE).2 fs ts h ex subs).2

theorem WF_toTreeV (env : List Schema) (hE : EnvOk env) (tv : TV) (ty : FTy) (ch : TCh)
    (h : TVOk env ty tv) : WF (toTreeV env ch tv) :=
  ((WF_fromTree_toTreeV env hE).1 ty tv h ch).1

theorem WFAll_slotsV (env : List Schema) (hE : EnvOk env) : ∀ (ts : List TV) (fs : List Field)
      (ex : List Bool) (subs : List TCh), FieldsOk env fs ts → WFAll (slotsV env fs ex subs ts) :=
  fun ts fs ex subs h => ((WF_fromTree_toTreeV env hE).2 fs ts h ex subs).1

theorem slots_append (env : List Schema) : ∀ (fpre : List Field) (pre : List TV) (fpost : List Field)
    (post : List TV), pre.length = fpre.length →
    slots env (fpre ++ fpost) (pre ++ post) = slots env fpre pre ++ slots env fpost post
  | [], [], _, _, _ => by simp only [slots, List.nil_append]
  | f :: fpre, t :: pre, fpost, post, h => by
    simp only [List.cons_append, slots]
    rw [slots_append env fpre pre fpost post (by simpa using h)]

theorem fieldsOk_append (env : List Schema) : ∀ (fpre : List Field) (pre : List TV) (fpost : List Field)
    (post : List TV), pre.length = fpre.length →
    (FieldsOk env (fpre ++ fpost) (pre ++ post) ↔ FieldsOk env fpre pre ∧ FieldsOk env fpost post)
  | [], [], _, _, _ => by simp [FieldsOk]
  | f :: fpre, t :: pre, fpost, post, h => by
    simp only [List.cons_append, FieldsOk]
    rw [fieldsOk_append env fpre pre fpost post (by simpa using h)]
    exact and_assoc.symm

theorem slotV_false (f : Field) (v : Value) : slotV f false v = slotOf f v := by
  unfold slotV slotOf
  split <;> simp

mutual
  theorem toTree_eq (env : List Schema) : ∀ (tv : TV), toTree env tv = toTreeV env (.leaf false) tv
    | .absent => by simp [toTree, toTreeV]
    | .leaf v => by simp [toTree, toTreeV, leafV]
    | .comp n fs => by
      simp only [toTree, toTreeV]
      cases lookup env n with
      | none => rfl
      | some s => simp only [slots_eq env fs s.fields]
  theorem slots_eq (env : List Schema) : ∀ (ts : List TV) (fs : List Field),
      slots env fs ts = slotsV env fs [] [] ts
    | [], fs => by cases fs <;> simp [slots, slotsV]
    | t :: ts, [] => by simp [slots, slotsV]
    | t :: ts, f :: fs => by
      simp only [slots, slotsV, List.headD_nil, List.tail_nil, slotV_false, toTree_eq env t, slots_eq env ts fs]
end

theorem WF_toTree (env : List Schema) (hE : EnvOk env) (tv : TV) (ty : FTy) (h : TVOk env ty tv) :
    WF (toTree env tv) :=
  toTree_eq env tv ▸ WF_toTreeV env hE tv ty _ h

theorem fromTree_toTree (env : List Schema) (hE : EnvOk env) (tv : TV) (ty : FTy) (h : TVOk env ty tv) :
    fromTree env ty (toTree env tv) = some tv :=
  toTree_eq env tv ▸ typed_tree_variants_read_back env hE ty tv _ h

/-! a decidable rendering of `TVOk`, for the non-vacuity examples -/

def isLeafEmptyArray : TV → Bool
  | .leaf (.array []) => true
  | _ => false

def isAbsent : TV → Bool
  | .absent => true
  | _ => false

def isLeaf : TV → Bool
  | .leaf _ => true
  | _ => false

theorem isAbsent_iff (t : TV) : isAbsent t = true ↔ t = .absent := by
  cases t <;> simp [isAbsent]

theorem isLeaf_iff (t : TV) : isLeaf t = true ↔ ∃ v, t = .leaf v := by
  cases t <;> simp [isLeaf]

mutual
  def tvOkB (env : List Schema) : FTy → TV → Bool
    | _, .absent => false
    | ty, .leaf v =>
      (match ty with
       | .prim p => (match accepts p v with | some w => Value.beq w v | none => false) && wfB v
       | .comp _ => false)
    | ty, .comp n fs =>
      (match ty with
       | .prim _ => false
       | .comp names => names.contains n &&
          (match lookup env n with
           | none => false
           | some s => fieldsOkB env s.fields fs))
  def fieldsOkB (env : List Schema) : List Field → List TV → Bool
    | [], [] => true
    | f :: fs, t :: ts =>
      (match f.kind with
       | .required => tvOkB env f.ty t
       | .optional => isAbsent t || tvOkB env f.ty t
       | .dflt => isLeaf t && tvOkB env f.ty t
       | .multiple => isAbsent t || (tvOkB env f.ty t && !isLeafEmptyArray t)) && fieldsOkB env fs ts
    | _, _ => false
end

mutual
  -- in the arms left out `tvOkB` is `false`: `match` closes them by itself
  theorem tvOkB_sound (env : List Schema) : ∀ (tv : TV) (ty : FTy), tvOkB env ty tv = true → TVOk env ty tv
    | .leaf v, .prim p, h => by
      simp only [tvOkB, Bool.and_eq_true] at h
      split at h
      · rename_i w ha
        exact ⟨p, rfl, beq_eq _ _ h.1 ▸ ha, wfB_sound v h.2⟩
      · cases h.1
    | .comp n fs, .comp names, h => by
      simp only [tvOkB, Bool.and_eq_true] at h
      refine ⟨names, rfl, h.1, ?_⟩
      split at h
      · cases h.2
      · exact fieldsOkB_sound env fs _ h.2
  theorem fieldsOkB_sound (env : List Schema) : ∀ (ts : List TV) (fs : List Field),
      fieldsOkB env fs ts = true → FieldsOk env fs ts
    | [], [], _ => trivial
    | [], _ :: _, h => by simp [fieldsOkB] at h
    | _ :: _, [], h => by simp [fieldsOkB] at h
    | t :: ts, f :: fs, h => by
      simp only [fieldsOkB, Bool.and_eq_true] at h
      refine ⟨?_, fieldsOkB_sound env ts fs h.2⟩
      have ih := tvOkB_sound env t f.ty
      have h1 := h.1
      unfold FieldOk1
      cases hk : f.kind <;>
        simp only [hk, Bool.or_eq_true, Bool.and_eq_true, Bool.not_eq_true', isAbsent_iff, isLeaf_iff] at h1 ⊢
      · exact ih h1
      · exact h1.imp_right ih
      · exact ⟨h1.1, ih h1.2⟩
      · exact h1.imp_right fun h2 => ⟨ih h2.1, fun he => by simp [he, isLeafEmptyArray] at h2⟩
end

end Amqp.Typed
