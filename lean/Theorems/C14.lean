/-
  C14 — failures propagate: no call hangs and every handle learns why it stopped.

  The part a model can carry: the error a handle reports names the level that stopped and carries
  the peer's condition; and once the session is dropped (or the peer has closed the link) nobody is
  left waiting for an outcome.  That calls return in bounded time, that engine tasks terminate and
  that nothing panics is measured by the failure-injection runs.
-/
import Amqp.FailProp
-- for the registry (tools/props.py): theorems there belong to this property too
import Theorems.PendingDetach
import Theorems.C12

namespace Amqp.FailProp

theorem reported_spec (c : Cause) :
    (reported c).scope = c.scope ∧ (reported c).carriesCondition = c.withError := by
  fun_cases reported c <;> exact ⟨rfl, rfl⟩

/-- the error names the level that stopped -/
theorem level_named (c : Cause) : (reported c).scope = c.scope := (reported_spec c).1

/-- and carries the peer's condition whenever the peer supplied one -/
theorem condition_carried (c : Cause) : (reported c).carriesCondition = c.withError := (reported_spec c).2

/-- the tags of the sends somebody still waits on -/
def waiting (m : List Entry) : List Nat := (m.filter (·.waiting)).map (·.tag)

theorem abandonAll_none_waiting (m : List Entry) : waiting (abandonAll m).1 = [] := by
  simp [abandonAll, waiting, List.filter_map, Function.comp_def]

theorem abandonAll_wakes_all (m : List Entry) : (abandonAll m).2 = (waiting m).map Wake.failed := by
  simp [abandonAll, waiting, List.map_map, Function.comp_def]

/-- nobody is left waiting: after any history of sends and settlements, when the session endpoint is
    dropped or the sender processes the peer's closing detach, nothing waits any more -/
theorem nobody_left_waiting (evs : List Ev) (m : List Entry) (last : Ev)
    (hl : last = .sessionDropped ∨ last = .peerClosedLink) :
    waiting (run m (evs ++ [last])).1 = [] := by
  induction evs generalizing m with
  | nil =>
    rcases hl with rfl | rfl <;> simp [run, step, abandonAll_none_waiting]
  | cons e es ih =>
    simp only [List.cons_append, run]
    exact ih _

theorem woken_stop_waiting (m : List Entry) (e : Ev) (t : Nat)
    (h : Wake.failed t ∈ (step m e).2 ∨ Wake.outcome t ∈ (step m e).2) :
    t ∉ waiting (step m e).1 := by
  cases e with
  | send t' => simp [step] at h
  | settle t' =>
    -- only the waiters of `t'` are woken, and no entry for `t'` is left
    have ht : t = t' := by
      simp only [step, List.mem_map, List.mem_filter, Bool.and_eq_true, beq_iff_eq, reduceCtorEq, and_false,
        exists_false, false_or, Wake.outcome.injEq] at h
      obtain ⟨x, ⟨_, hx, _⟩, rfl⟩ := h
      exact hx
    simp [step, waiting, ht]
  | sessionDropped | peerClosedLink =>
    rw [step, abandonAll_none_waiting]
    exact List.not_mem_nil

-- a settled send keeps its outcome; those still waiting when the session drops fail
example : (run [] [.send 1, .send 2, .settle 1, .send 3, .sessionDropped]).2 =
    [.outcome 1, .failed 2, .failed 3] := by decide

end Amqp.FailProp
