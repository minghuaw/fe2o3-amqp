/-
  C13 — session and link lifecycles.

  Part 1: the session's end handshake (`Amqp.SessLife`), for every sequence of events.
  Part 2: the link's detach handshake (`Amqp.LinkLife`).
  Part 3: a detach handed to the session does not overtake the transfers of its link that the peer's
  window holds back (`Amqp.DetachHold`).
-/
import Amqp.DetachHold
-- for the registry (tools/props.py): its theorem belongs to this property too
import Theorems.PendingDetach
import Amqp.SessLife
import Amqp.LinkLife
import Theorems.Lemmas.List

namespace Amqp.SessLife
open Amqp.Gen.Fsm Amqp.Gen.SessLife

def Out.isEnd : Out → Bool
  | .end_ _ => true
  | _ => false

/-- the end has been written, or the engine has stopped -/
def Ending (s : St) : Prop :=
  s.phase = .stopped ∨ ((s.ss = .endSent ∨ s.ss = .discarding ∨ s.ss = .unmapped) ∧ s.linksClosed = true) ∨
  ((s.ss = .endSent ∨ s.ss = .discarding ∨ s.ss = .unmapped) ∧ ∃ d t, s.phase = .waitEnd d t)

/-- states the engine is in between events once the session is mapped -/
def Inv (s : St) : Prop := Ending s ∨ (s.ss = .mapped ∧ s.phase = .running)

/-- the session states after our end frame (the disjunction that `Ending` spells out twice) -/
def InE (c : SState) : Prop := c = .endSent ∨ c = .discarding ∨ c = .unmapped

/-- an end frame, if any, is the last thing written on the channel -/
def EndLast : List Out → Prop
  | [] => True
  | o :: os => (o.isEnd = true → os = []) ∧ EndLast os

theorem settle_eq (s : St) : ∃ p, settle s = { s with phase := p } := by
  unfold settle; split <;> exact ⟨_, rfl⟩

/-- an outcome that writes nothing and is a state after the end; `links`, with `l` the `linksClosed` of the
    state before, is there because `Ending` asks for `linksClosed` of a running engine -/
structure Silent (l : Bool) (r : St × List Out) : Prop where
  out : r.2 = []
  ss : InE r.1.ss
  links : l = true → r.1.linksClosed = true

theorem InE.tables {c : SState} (h : InE c) :
    (∀ we, Sess.send_end c we = none) ∧ Sess.on_outgoing_link_frames_arm c = 1 := by
  rcases h with rfl | rfl | rfl <;> exact ⟨fun _ => rfl, rfl⟩

theorem InE.on_incoming_end {c c' : SState} (h : InE c) (ho : Sess.on_incoming_end c = some c') : c' = .unmapped := by
  rcases h with rfl | rfl | rfl <;> cases ho <;> rfl

theorem InE.unmapped : InE .unmapped := .inr (.inr rfl)

section
variable {s : St} (h : InE s.ss)
include h

theorem endSession_inE (we : Bool) :
    ∃ p, endSession s we = ({ s with phase := p }, [], none) := by
  unfold endSession
  rcases h with h | h | h <;> rw [h] <;> exact ⟨_, rfl⟩

theorem onError_inE (e : Err) : Silent s.linksClosed (onError s e) := by
  obtain ⟨p, hp⟩ := endSession_inE h true
  obtain ⟨q, hq⟩ := endSession_inE h false
  cases e <;> simp only [onError, hp, hq] <;> exact ⟨rfl, h, id⟩

theorem onIncomingEnd_inE (we : Bool) :
    ∃ c err, InE c ∧ onIncomingEnd s we = ({ s with ss := c }, [], err) ∧
      onIncomingEndQueued s we = ({ s with ss := c }, [], err) := by
  unfold onIncomingEnd onIncomingEndQueued
  cases ho : Sess.on_incoming_end s.ss with
  | none => exact ⟨_, _, h, rfl, rfl⟩
  | some c => cases h.on_incoming_end ho; exact ⟨_, _, .unmapped, rfl, rfl⟩

theorem stepRunning_inE (e : Event) : Silent s.linksClosed (stepRunning s e) := by
  obtain ⟨hs, hl⟩ := h.tables
  cases e with
  | peerEnd we | peerEndQueued we =>
    obtain ⟨c, err, hc, h1, h2⟩ := onIncomingEnd_inE h we
    simp only [stepRunning, h1, h2]
    cases err with
    | none =>
      obtain ⟨p, hp⟩ := settle_eq { s with ss := c }
      rw [hp]
      exact ⟨rfl, hc, id⟩
    | some e => exact onError_inE (s := { s with ss := c }) hc e
  | peerFrame ok =>
    simp only [stepRunning, Prod.eta]
    split
    · exact ⟨rfl, h, id⟩
    · exact onError_inE h _
  | ctlEnd we =>
    simp only [stepRunning, hs, Prod.eta]
    obtain ⟨a, b, c⟩ := onError_inE (s := { s with linksClosed := true }) h .illegalState
    exact ⟨a, b, fun _ => c rfl⟩
  | linkOut =>
    simp only [stepRunning, hl, Nat.reduceEqDiff, ↓reduceIte, Prod.eta]
    split
    · exact ⟨rfl, h, id⟩
    · exact onError_inE h _

end

theorem stepWait_peerEnd (s : St) (d t we : Bool) :
    (stepWait s d t (.peerEnd we)).1.phase = .stopped ∧ (stepWait s d t (.peerEnd we)).2 = [] := by
  simp only [stepWait]
  split
  · split
    · split <;> exact ⟨rfl, rfl⟩
    · exact ⟨rfl, rfl⟩
  · exact ⟨rfl, rfl⟩

theorem stepWait_quiet (s : St) (d t : Bool) (e : Event) :
    stepWait s d t e = (s, []) ∨ ((stepWait s d t e).1.phase = .stopped ∧ (stepWait s d t e).2 = []) := by
  fun_cases stepWait s d t e
  -- a frame that is discarded or can be acted on, and the local events, which the wait does not take up
  case case9 => exact .inl rfl
  case case11 => exact .inl rfl
  all_goals exact .inr ⟨rfl, rfl⟩

/-- nothing after the end: once the session has written its end (or stopped), no event makes it write
    anything on its channel -/
theorem ending_step (s : St) (e : Event) (h : Ending s) : (step s e).2 = [] ∧ Ending (step s e).1 := by
  unfold step
  split
  next hp =>
    obtain h | ⟨h, hl⟩ | ⟨_, d, t, h⟩ := h
    · rw [hp] at h; cases h
    · obtain ⟨a, b, c⟩ := stepRunning_inE h e
      exact ⟨a, .inr (.inl ⟨b, c hl⟩)⟩
    · rw [hp] at h; cases h
  next d t _ =>
    rcases stepWait_quiet s d t e with q | ⟨a, b⟩
    · rw [q]; exact ⟨rfl, h⟩
    · exact ⟨b, .inl a⟩
  · exact ⟨rfl, h⟩

theorem step_running {s : St} (hp : s.phase = .running) (e : Event) : step s e = stepRunning s e := by
  rw [step, hp]

theorem step_wait {s : St} {d t : Bool} (hp : s.phase = .waitEnd d t) (e : Event) : step s e = stepWait s d t e := by
  rw [step, hp]

/-- what a mapped session does with each event -/
theorem stepRunning_mapped {s : St} (hs : s.ss = .mapped) (e : Event) :
    stepRunning s e =
      match e with
      | .peerEnd we =>
        ({ s with ss := .unmapped, phase := .stopped, linksClosed := true,
                  res := some (if we then .remoteEndedWithError else .remoteEnded) }, [.end_ false])
      | .peerEndQueued _ =>
        ({ s with ss := .unmapped, phase := .stopped, linksClosed := true, res := some .illegalState }, [.end_ true])
      | .peerFrame true => (s, [])
      | .peerFrame false => ({ s with ss := .discarding, phase := .waitEnd true true, res := some .failed }, [.end_ true])
      | .ctlEnd we => ({ s with ss := if we then .discarding else .endSent, linksClosed := true }, [.end_ we])
      | .linkOut => (s, if s.linksClosed then [] else [.frame]) := by
  cases e with
  | peerEnd we =>
    unfold stepRunning onIncomingEnd
    rw [hs]
    cases we <;> rfl
  | peerEndQueued we =>
    unfold stepRunning onIncomingEndQueued
    rw [hs]
    rfl
  | peerFrame ok =>
    simp only [stepRunning, onError, endSession, hs]
    cases ok <;> rfl
  | ctlEnd we =>
    simp only [stepRunning, hs]
    cases we <;> rfl
  | linkOut =>
    simp only [stepRunning, hs]
    cases s.linksClosed <;> rfl

theorem run_ending (evs : List Event) : ∀ (s : St), Ending s → (run s evs).2 = [] := by
  induction evs with
  | nil => intro s _; rfl
  | cons e es ih =>
    intro s h
    obtain ⟨a, b⟩ := ending_step s e h
    simp only [run, a, List.nil_append]
    exact ih _ b

/-- C13, session: at most one end, nothing on the channel after it, for every sequence of events (the
    peer's frames whether the session can act on them or not, the application's end, frames of its links) -/
theorem end_is_last (evs : List Event) : ∀ (s : St), Inv s → EndLast (run s evs).2 := by
  induction evs with
  | nil => intro s _; simp [run, EndLast]
  | cons e es ih =>
    intro s h
    rcases h with h | ⟨hs, hp⟩
    · rw [run_ending _ s h]; exact trivial
    · have stay : EndLast (run s es).2 := ih s (.inr ⟨hs, hp⟩)
      have ended (s' : St) (we : Bool) (h' : Ending s') : EndLast ([.end_ we] ++ (run s' es).2) := by
        rw [run_ending es s' h']
        exact ⟨fun _ => rfl, trivial⟩
      simp only [run]
      rw [step_running hp, stepRunning_mapped hs]
      cases e with
      | peerEnd we => exact ended _ _ (.inl rfl)
      | peerEndQueued we => exact ended _ _ (.inl rfl)
      | peerFrame ok =>
        cases ok with
        | true => exact stay
        | false => exact ended _ _ (.inr (.inr ⟨.inr (.inl rfl), _, _, rfl⟩))
      | ctlEnd we => exact ended _ _ (.inr (.inl ⟨by cases we <;> simp, rfl⟩))
      | linkOut =>
        cases s.linksClosed with
        | true => exact stay
        | false => exact ⟨nofun, stay⟩

theorem endLast_count : ∀ (os : List Out), EndLast os → (os.filter Out.isEnd).length ≤ 1 :=
  List.count_le_one_of_last fun _ _ h => h

theorem at_most_one_end (evs : List Event) (s : St) (h : Inv s) : ((run s evs).2.filter Out.isEnd).length ≤ 1 :=
  endLast_count _ (end_is_last evs s h)

/-- a peer's end is answered with an end (without error), the engine stops, and the handle learns
    that, and why, the peer ended the session -/
theorem peer_end_answered (s : St) (we : Bool) (hs : s.ss = .mapped) (hp : s.phase = .running) :
    (step s (.peerEnd we)).2 = [.end_ false] ∧ (step s (.peerEnd we)).1.phase = .stopped ∧
    (step s (.peerEnd we)).1.res = some (if we then .remoteEndedWithError else .remoteEnded) := by
  rw [step_running hp, stepRunning_mapped hs]
  exact ⟨rfl, rfl, rfl⟩

/-- C13: a peer's end is answered also when frames of the session's links are still queued.  They cannot
    go out any more (the state has left MAPPED) and the arm that takes up the end leaves early; it is
    `end_session`, entered in END RECEIVED, that writes the end (with an error). -/
theorem peer_end_answered_with_frames_queued (s : St) (we : Bool) (hs : s.ss = .mapped) (hp : s.phase = .running) :
    (step s (.peerEndQueued we)).2 = [.end_ true] ∧ (step s (.peerEndQueued we)).1.phase = .stopped ∧
    (step s (.peerEndQueued we)).1.res = some .illegalState := by
  rw [step_running hp, stepRunning_mapped hs]
  exact ⟨rfl, rfl, rfl⟩

theorem run_ignored {α : Type} {s : St} (f : α → Event) (rest : List Event) :
    ∀ (l : List α), (∀ a ∈ l, step s (f a) = (s, [])) → run s (l.map f ++ rest) = run s rest
  | [], _ => rfl
  | a :: l, h => by
    simp only [List.map_cons, List.cons_append, run, h a (by simp), run_ignored f rest l fun a ha => h a (by simp [ha]),
      List.nil_append]

/-- local end returns only after the peer's answer: after `end()` the engine keeps running (the handle's
    call is pending) through the frames of the peer that the session can act on and stops at the peer's
    end, whose error, if any, is what the caller gets -/
theorem local_end_waits_for_peer (oks : List Bool) (hok : ∀ b ∈ oks, b = true) (we : Bool) : ∀ (s : St),
    s.ss = .endSent → s.phase = .running → s.linksClosed = true →
    (∀ k, k ≤ oks.length → (run s ((oks.take k).map Event.peerFrame)).1.phase = .running) ∧
    (run s (oks.map Event.peerFrame ++ [.peerEnd we])).1.phase = .stopped ∧
    (run s (oks.map Event.peerFrame ++ [.peerEnd we])).1.res = (if we then some .remoteEndedWithError else s.res) ∧
    (run s (oks.map Event.peerFrame ++ [.peerEnd we])).2 = [] := by
  intro s hs hp _
  -- frames the session can act on change nothing
  have ok : ∀ b ∈ oks, step s (.peerFrame b) = (s, []) := fun b hb => by rw [hok b hb, step_running hp]; rfl
  refine ⟨fun k _ => ?_, ?_⟩
  · rw [← List.append_nil (List.map _ _), run_ignored _ _ _ fun b hb => ok b (List.mem_of_mem_take hb)]; exact hp
  · rw [run_ignored _ _ _ ok, run, step_running hp]
    unfold stepRunning onIncomingEnd
    rw [hs]
    cases we <;> exact ⟨rfl, rfl, rfl⟩

/-- after ending with an error the session discards until the peer's end: whatever the peer sends,
    frames that would fail included, is ignored, and the engine stops when the peer's end arrives, not
    earlier (its channel stays mapped for that end, so the end cannot bring the connection down) -/
theorem error_end_waits_for_peer_end (fs : List Bool) (we : Bool) (s : St) (hs : s.ss = .mapped) (hp : s.phase = .running) :
    (step s (.peerFrame false)).2 = [.end_ true] ∧
    (∀ k, k ≤ fs.length → (run (step s (.peerFrame false)).1 ((fs.take k).map Event.peerFrame)).1.phase = .waitEnd true true) ∧
    (run (step s (.peerFrame false)).1 (fs.map Event.peerFrame ++ [.peerEnd we])).1.phase = .stopped ∧
    (run (step s (.peerFrame false)).1 (fs.map Event.peerFrame ++ [.peerEnd we])).2 = [] := by
  rw [step_running hp, stepRunning_mapped hs]
  dsimp only
  generalize hq : ({ s with ss := .discarding, phase := .waitEnd true true, res := some .failed } : St) = q
  have hq2 : q.phase = .waitEnd true true := by rw [← hq]
  -- the wait discards every frame but the end
  have ok : ∀ b ∈ fs, step q (.peerFrame b) = (q, []) := fun b _ => by rw [step_wait hq2]; rfl
  refine ⟨rfl, fun k _ => ?_, ?_⟩
  · rw [← List.append_nil (List.map _ _), run_ignored _ _ _ fun b hb => ok b (List.mem_of_mem_take hb)]; exact hq2
  · simp only [run_ignored _ _ _ ok, run, step_wait hq2, List.append_nil]
    exact stepWait_peerEnd ..

-- the invariant holds at the start; a run with traffic, a local end and the peer's end
example : Inv mapped0 := Or.inr ⟨rfl, rfl⟩

example : (run mapped0 [.linkOut, .peerFrame true, .ctlEnd false, .linkOut, .peerFrame true, .peerEnd false]).2 = [.frame, .end_ false] := by
  decide +kernel

end Amqp.SessLife

namespace Amqp.LinkLife

theorem call_pending (req : Req) (p answer : PeerDetach) :
    call req (some p) answer =
      { sent := [p.closed], state := if p.closed then .closed else .detached,
        res := if p.withError then .remoteError else
          match req, p.closed with
          | .detach, true => .closedByRemote
          | .close, false => .mismatch
          | _, _ => .ok } := by
  cases req <;> cases p with | mk c e => cases c <;> rfl

theorem call_none (req : Req) (answer : PeerDetach) :
    call req none answer =
      if answer.closed = decide (req = .close) then
        { sent := [decide (req = .close)], state := if req = .close then .closed else .detached,
          res := if answer.withError then .remoteError else .ok }
      else
        { sent := [decide (req = .close)], state := if req = .close then .closeSent else .detachSent,
          res := .mismatch } := by
  cases req <;> cases answer with | mk c e => cases c <;> rfl

/-- answered in kind, once: when the peer has already detached (or closed) the link, the application's
    next `detach()` / `close()` writes exactly one detach, with the `closed` flag the peer used -/
theorem peer_detach_answered_in_kind (req : Req) (p answer : PeerDetach) :
    (call req (some p) answer).sent = [p.closed] := by
  rw [call_pending]

/-- the peer's error is what the caller gets, whether it came with an earlier detach of the peer or
    (next theorem) with its answer to ours -/
theorem peer_error_reported (req : Req) (p answer : PeerDetach) (he : p.withError = true) :
    (call req (some p) answer).res = .remoteError := by
  rw [call_pending]
  exact if_pos he

theorem answer_error_reported (req : Req) (answer : PeerDetach) (hk : answer.closed = decide (req = .close))
    (he : answer.withError = true) :
    (call req none answer).res = .remoteError := by
  rw [call_none, if_pos hk]
  exact if_pos he

/-- without an earlier detach from the peer: one detach of the requested kind, and on the peer's answer
    in kind the handshake completes -/
theorem own_detach_completes (req : Req) (answer : PeerDetach) (hk : answer.closed = decide (req = .close)) :
    (call req none answer).sent = [decide (req = .close)] ∧
    (call req none answer).state = (if req = .close then .closed else .detached) ∧
    (call req none answer).res = (if answer.withError then .remoteError else .ok) := by
  rw [call_none, if_pos hk]
  exact ⟨rfl, rfl, rfl⟩

/-- never two detaches for one attach in the modelled paths -/
theorem at_most_one_detach (req : Req) (pending : Option PeerDetach) (answer : PeerDetach) :
    (call req pending answer).sent.length ≤ 1 := by
  cases pending with
  | some p => rw [call_pending]; exact Nat.le_refl 1
  | none => rw [call_none]; split <;> exact Nat.le_refl 1

end Amqp.LinkLife

namespace Amqp.DetachHold

theorem source_detach_waits : detachWaits = true ∧ drainInOrder = true := by decide

/-- the drain sends a front part of what is held, in order; if the window is still open afterwards,
    nothing is left -/
theorem drain_spec : ∀ (buf : List Item) (riw : Nat),
    (drain riw buf).2.2 ++ (drain riw buf).2.1 = buf ∧
    (0 < (drain riw buf).1 → (drain riw buf).2.1 = []) := by
  intro buf riw
  fun_induction drain riw buf
  · exact ⟨rfl, fun _ => rfl⟩
  next hd ih =>
    rw [hd] at ih
    exact ⟨congrArg _ ih.1, ih.2⟩
  next h => exact ⟨rfl, fun hr => absurd hr h⟩
  next hd ih =>
    rw [hd] at ih
    exact ⟨congrArg _ ih.1, ih.2⟩

theorem drain_all : ∀ (buf : List Item) (r : Nat), buf.length ≤ r → (drain r buf).2.1 = []
  | [], _, _ => rfl
  | .xfer l u :: rest, r, h => by
    have hr : 0 < r := Nat.lt_of_lt_of_le (Nat.succ_pos _) h
    simp only [drain, hr, if_true]
    exact drain_all rest (r - 1) (Nat.le_sub_one_of_lt h)
  | .detach l :: rest, r, h => by
    exact drain_all rest r (Nat.le_of_succ_le h)

theorem ofLink_append (l : Nat) (a b : List Item) : ofLink l (a ++ b) = ofLink l a ++ ofLink l b := by
  simp [ofLink, List.filter_append]

theorem holds_false_ofLink {buf : List Item} {l : Nat} (h : holdsXferOf buf l = false) :
    ∀ i ∈ ofLink l buf, i = .detach l := by
  intro i hi
  obtain ⟨hm, hl⟩ := List.mem_filter.mp hi
  cases i with
  | xfer l' u => exact absurd hl (List.any_eq_false.mp h _ hm)
  | detach l' => rw [← eq_of_beq hl]; rfl

/-- an item may overtake copies of itself -/
theorem ofLink_overtake (l : Nat) {x : Item} {buf : List Item} (h : ∀ i ∈ ofLink x.link buf, i = x) :
    ofLink l [x] ++ ofLink l buf = ofLink l buf ++ ofLink l [x] := by
  by_cases hl : x.link = l
  · have : ofLink l [x] = [x] := by simp [ofLink, hl]
    rw [this, ← hl, List.eq_replicate_iff.mpr ⟨rfl, h⟩]
    exact List.replicate_succ.symm.trans List.replicate_succ'
  · have : ofLink l [x] = [] := by simp [ofLink, hl]
    rw [this, List.append_nil, List.nil_append]

/-- `handed`, one operation at a time -/
def opItems : Op → List Item
  | .hand i => [i]
  | .window _ => []

/-- one step moves a front part of (held ++ handed over) to the wire; except that a detach overtakes what
    is held when no transfer of its link is -/
theorem step_shape (s : St) (op : Op) :
    (step s op).2 ++ (step s op).1.buf = s.buf ++ opItems op ∨
    ∃ l, op = .hand (.detach l) ∧ holdsXferOf s.buf l = false ∧ step s op = (s, [.detach l]) := by
  cases op with
  | window n =>
    rw [step, opItems, List.append_nil]
    split
    · exact .inl (drain_spec s.buf n).1
    · exact .inl rfl
  | hand it =>
    cases it with
    | xfer l u =>
      refine .inl ?_
      rw [step]
      split
      · rfl
      · split
        next he => rw [List.isEmpty_iff.mp he]; rfl
        · obtain ⟨h1, h2⟩ := drain_spec s.buf s.riw
          generalize drain s.riw s.buf = d at h1 h2 ⊢
          obtain ⟨r, buf, out⟩ := d
          dsimp only at h1 h2 ⊢
          split
          next hr => cases h2 hr; rw [← h1]; simp only [List.append_nil, opItems]
          · rw [← h1]; exact (List.append_assoc ..).symm
    | detach l =>
      rw [step, source_detach_waits.1, Bool.true_and]
      split
      · exact .inl rfl
      next h => exact .inr ⟨l, rfl, Bool.eq_false_iff.mpr h, rfl⟩

theorem handed_cons (op : Op) (ops : List Op) : handed (op :: ops) = opItems op ++ handed ops := by
  cases op <;> rfl

/-- per link, what has left and what is held is what was held and what has been handed over, for every
    history (`DetachIsLast` is not needed): a detach overtakes only what is not of its link, or other
    detaches of its link -/
theorem run_fifo (l : Nat) : ∀ (ops : List Op) (s : St),
    ofLink l (run s ops).2 ++ ofLink l (run s ops).1.buf = ofLink l s.buf ++ ofLink l (handed ops)
  | [], _ => (List.append_nil _).symm
  | op :: ops, s => by
    have key : ofLink l (step s op).2 ++ ofLink l (step s op).1.buf = ofLink l s.buf ++ ofLink l (opItems op) := by
      rcases step_shape s op with h | ⟨l', rfl, hh, h⟩
      · rw [← ofLink_append, h, ofLink_append]
      · rw [h]
        exact ofLink_overtake l (holds_false_ofLink hh)
    simp only [run]
    rw [handed_cons, ofLink_append, ofLink_append, List.append_assoc, run_fifo l ops, ← List.append_assoc, key,
      List.append_assoc]

/-- nothing of a link is handed over after its detach -/
def DetachIsLast (items : List Item) : Prop :=
  ∀ pre l post, items = pre ++ Item.detach l :: post → ∀ i ∈ post, i.link ≠ l

/-- what a link hands to the session leaves it in that order, for every history of transfers and
    detaches of any number of links and of window updates from the peer (a link handing nothing over
    after its detach).  In particular a detach is never written while a transfer of its link is held. -/
theorem per_link_fifo (w0 : Nat) (ops : List Op) (hwf : DetachIsLast (handed ops)) (l : Nat) :
    ofLink l (run ⟨w0, []⟩ ops).2 ++ ofLink l (run ⟨w0, []⟩ ops).1.buf = ofLink l (handed ops) :=
  run_fifo l ops ⟨w0, []⟩

/-- once the window has room for everything held, nothing stays behind -/
theorem window_flushes (s : St) (n : Nat) (h : s.buf.length ≤ n) (hn : 0 < n) :
    (step s (.window n)).1.buf = [] := by
  simp only [step]
  split
  · exact drain_all s.buf n h
  next hc =>
    cases hb : s.buf with
    | nil => rfl
    | cons i rest => exact absurd ⟨hn, by rw [hb]; rfl⟩ hc

/-- the detach of a link waits for the two transfers that the closed window holds back -/
example : (run ⟨1, []⟩ [.hand (.xfer 0 1), .hand (.xfer 0 2), .hand (.detach 0), .window 5]).2 =
    [.xfer 0 1, .xfer 0 2, .detach 0] := by decide

end Amqp.DetachHold
