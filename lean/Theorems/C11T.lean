/-
  C11 — the module under which all of C11 is registered (it imports the handle side, both routing levels
  and C17), and the channel side: the slab of outgoing channels under the channel-max bound
  (`Amqp/Limits.lean`, compared with begin / end histories on a real connection by the `limits` runs).
-/
import Theorems.C11
import Theorems.C17
import Theorems.Routing
import Theorems.ChanRouting

namespace Amqp.Limits
open Amqp.Handles Amqp.Gen.Limits

/-- After any history of begins and ends on a connection, under any
    channel-max, no two live sessions hold the same channel. -/
theorem channels_unique (bound : Nat) (ops : List Op) :
    ((run bound Slab.empty ops).1.live.map (·.1)).Nodup :=
  (run_inv bound ops Slab.empty empty_inv counted_empty).1.liveNodup

/-- The channel a begin is given is held by no live session at that moment: a number comes back only
    after its holder was ended. -/
theorem channel_reused_only_after_end (bound : Nat) (ops : List Op) (k : Nat)
    (h : (allocate (run bound Slab.empty ops).1 bound).2 = .channel k) :
    k ∉ (run bound Slab.empty ops).1.live.map (·.1) := by
  rw [allocate_eq] at h
  split at h
  · cases h
  · cases h; exact vacant_not_live (run_inv bound ops Slab.empty empty_inv counted_empty).1

/-- non-vacuity: begin, begin, end the first, begin again: the third session gets channel 0 while
    channel 1 is still held — not the number of live sessions -/
example : (run 10 Slab.empty [.alloc, .alloc, .free 0, .alloc]).2 =
    [some (.channel 0), some (.channel 1), none, some (.channel 0)] := by decide

end Amqp.Limits
