/-
  C15 — a misbehaving peer cannot crash, wedge or spin an endpoint.

  What a theorem can carry of this property: every layer's reaction to input it must not trust is a
  total function with a bounded amount of work, and a violation is answered at the level it belongs
  to.  Here: the frame header and the bound on the disposition range walk; the body decoder (C04), the
  reactions to illegal frames (C12, C13) and the credit check (C09) are imported.  That nothing panics,
  hangs or costs too much in the running program is measured by the hostile-peer runs.
-/
import Amqp.FrameHeader
import Amqp.Gen.Panics
-- for the registry (tools/props.py): theorems there belong to this property too
import Theorems.PendingDetach
import Theorems.C12
import Theorems.C13
import Theorems.C02
import Theorems.C04
import Theorems.C09

namespace Amqp.FrameHeader
open Amqp.Gen.FrameHeader

/-- generated obligation: the functions that act on what the peer sends (every `on_incoming*` of the
    connection, the session, the links, their listener and transaction variants, the two frame decoders
    and the engines' dispatchers) contain no index expression, `unwrap`, `expect` or panicking macro,
    but for the listener's `on_incoming_begin`, which looks up the relay it has just allocated
    (`expect("relay was just allocated")`): the peer's input cannot make that fail. -/
theorem no_panic_site_on_peer_input :
    Amqp.Gen.Panics.sites = [("acceptor/connection.rs::on_incoming_begin#0", 1)] ∧
    40 ≤ Amqp.Gen.Panics.functions_inspected := by decide

theorem readHeader_eq_none : ∀ {src : Bytes}, readHeader src = none → src.length < 4
  | [], _ | [_], _ | [_, _], _ | [_, _, _], _ => by simp
  | _ :: _ :: _ :: _ :: _, h => nomatch h

theorem readHeader_eq_some {src : Bytes} {d t c : Nat} {b : Bytes} (h : readHeader src = some (d, t, c, b)) :
    ∃ c1 c0, src = d :: t :: c1 :: c0 :: b ∧ c = c1 * 256 + c0 := by
  unfold readHeader at h
  split at h
  · cases h; exact ⟨_, _, rfl, rfl⟩
  · cases h

/-- the header is never read from too few bytes: for every byte string the AMQP frame decoder's header
    step returns a header or an error, never the panic of `Buf::get_*` -/
theorem amqp_header_never_panics (src : Bytes) : decodeAmqp src ≠ .panic := by
  fun_cases decodeAmqp src
  -- the guard is evaluated first (read off the source), so where the header cannot be read it has answered
  case case2 hg hn => exact absurd ((Bool.and_eq_true _ _).mpr ⟨rfl, decide_eq_true (readHeader_eq_none hn)⟩) hg
  all_goals nofun

theorem sasl_header_never_panics (src : Bytes) : decodeSasl src ≠ .panic := by
  fun_cases decodeSasl src
  case case2 hg hn => exact absurd ((Bool.and_eq_true _ _).mpr ⟨rfl, decide_eq_true (readHeader_eq_none hn)⟩) hg
  all_goals nofun

/-- a header is accepted only with doff = 2 and the frame type of the layer; the body is what
    follows the four header bytes, untouched -/
theorem amqp_header_accepts (src : Bytes) (ch : Nat) (body : Bytes) (h : decodeAmqp src = .header ch body) :
    ∃ c1 c0, src = 2 :: 0 :: c1 :: c0 :: body ∧ ch = c1 * 256 + c0 := by
  revert h
  fun_cases decodeAmqp src
  case case5 doff ftype c b hr h1 h2 =>
    intro h
    cases h
    have h1 : ftype = 0 := by simpa [amqp_decode.cond_if_1, FRAME_TYPE_AMQP] using h1
    have h2 : doff = 2 := by simpa using h2
    subst h1 h2
    exact readHeader_eq_some hr
  all_goals nofun

/-- without the guard, a frame that carries fewer than four bytes after its length field makes the
    decoder panic -/
theorem unguarded_read_panics : readHeader [0x20, 0x82] = none := rfl

end Amqp.FrameHeader
