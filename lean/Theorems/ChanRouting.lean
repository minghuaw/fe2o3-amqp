/-
  C11 — routing by channel: every incoming session frame reaches the session that the peer's channel
  designates, and no two of our channels lead to the same session.
-/
import Amqp.ChanRouting
import Theorems.Routing
import Theorems.Lemmas.Slab

namespace Amqp.ChanRouting
open Amqp.Handles Amqp.Routing

def abs (t : CTab) : Desig := fun ch => get ch t.byIn

def FrameOk (d : Desig) : Op → Out → Prop
  | .inFrame ch, o => o = (match d ch with | some s => .to s | none => .notFound)
  | .inEnd ch, o => o = (match d ch with | some s => .to s | none => .notFound)
  | _, _ => True

def Faithful : Desig → List Op → List Out → Prop
  | _, [], [] => True
  | d, op :: ops, o :: os => FrameOk d op o ∧ Faithful (desigStep d op o) ops os
  | _, _, _ => False

/-- one step of the tables is one step of the specification; only an answered begin and an end touch the
    table of the peer's channels -/
theorem step_sim (bound : Nat) (t : CTab) (op : Op) :
    FrameOk (abs t) op (step bound t op).2 ∧ abs (step bound t op).1 = desigStep (abs t) op (step bound t op).2 := by
  cases op with
  | alloc => simp only [step]; split <;> exact ⟨trivial, rfl⟩
  | dealloc oc => exact ⟨trivial, rfl⟩
  | inBegin ch remote =>
    cases remote with
    | none => exact ⟨trivial, rfl⟩
    | some oc =>
      simp only [step]
      split
      · refine ⟨trivial, ?_⟩
        funext x; simp only [abs, desigStep, Desig.set, get_put]
      · exact ⟨trivial, rfl⟩
  | inFrame ch =>
    simp only [FrameOk, step, abs]
    cases get ch t.byIn <;> exact ⟨rfl, rfl⟩
  | inEnd ch =>
    simp only [FrameOk, step, abs]
    cases get ch t.byIn with
    | none => exact ⟨rfl, rfl⟩
    | some s =>
      refine ⟨rfl, ?_⟩
      funext x; simp only [abs, desigStep, Desig.clear, get_del]

/-- For every history of local begins and ends and of frames of a peer that numbers its channels as it
    likes (sparse, large, reused after its end): a session frame is handed to the session whose begin the
    peer sent on that channel — the latest one, if the peer has not ended it since — and is refused when
    the channel designates none. -/
theorem frames_reach_the_session_of_their_channel (bound : Nat) (ops : List Op) :
    ∀ (t : CTab), Faithful (abs t) ops (run bound t ops).2 := by
  induction ops with
  | nil => intro t; trivial
  | cons op ops ih =>
    intro t
    obtain ⟨h1, h2⟩ := step_sim bound t op
    exact ⟨h1, h2 ▸ ih _⟩

/-- `bySlot` holds exactly the live keys of the slab, each once, with endpoint numbers that are
    pairwise different and below `next` -/
structure Inv (t : CTab) : Prop where
  slab : SlabInv t.slab
  keys : ∀ k, (get k t.bySlot).isSome ↔ k ∈ t.slab.live.map (·.1)
  sids : ∀ k1 k2 s, get k1 t.bySlot = some s → get k2 t.bySlot = some s → k1 = k2
  below : ∀ k s, get k t.bySlot = some s → s < t.next

theorem empty_inv : Inv CTab.empty :=
  ⟨Amqp.Handles.empty_inv, by simp [CTab.empty, Routing.get, Slab.empty], by simp [CTab.empty, Routing.get],
   by simp [CTab.empty, Routing.get]⟩

theorem step_inv (bound : Nat) (t : CTab) (op : Op) (h : Inv t) : Inv (step bound t op).1 := by
  cases op with
  | alloc =>
    simp only [step]
    split
    · exact h
    · -- slot `vacantKey` gets the new endpoint number `next`, above every number stored so far
      obtain ⟨h1, h2, h3, h4⟩ := h
      refine ⟨insert_inv "" h1, fun k => ?_, fun k1 k2 s g1 g2 => ?_, fun k s g => ?_⟩
      · rw [get_put, Slab.insert_live, List.map_cons, List.mem_cons, ← h2 k]
        split
        · exact ⟨fun _ => .inl ‹_›, fun _ => rfl⟩
        · exact ⟨.inr, fun h => h.resolve_left ‹_›⟩
      · rcases get_put_some g1 with ⟨e1, rfl⟩ | ⟨_, g1⟩ <;> rcases get_put_some g2 with ⟨e2, _⟩ | ⟨_, g2⟩
        · rw [e1, e2]
        · exact absurd (h4 k2 _ g2) (Nat.lt_irrefl _)
        · subst s; exact absurd (h4 k1 _ g1) (Nat.lt_irrefl _)
        · exact h3 k1 k2 s g1 g2
      · rcases get_put_some g with ⟨_, rfl⟩ | ⟨_, g⟩
        · exact Nat.lt_succ_self _
        · exact Nat.lt_succ_of_lt (h4 k s g)
  | inBegin ch remote =>
    cases remote with
    | none => exact h
    | some oc => simp only [step]; split <;> exact ⟨h.slab, h.keys, h.sids, h.below⟩
  | inFrame ch => simp only [step]; split <;> exact h
  | inEnd ch => simp only [step]; split <;> exact ⟨h.slab, h.keys, h.sids, h.below⟩
  | dealloc oc =>
    obtain ⟨h1, h2, h3, h4⟩ := h
    refine ⟨remove_inv oc h1, fun k => ?_, fun k1 k2 s g1 g2 => ?_, fun k s g => ?_⟩
    · show (get k (del oc t.bySlot)).isSome ↔ k ∈ (t.slab.remove oc).1.live.map (·.1)
      rw [get_del, Slab.remove_keys, List.mem_filter, ← h2 k]
      split
      · exact ⟨(nomatch ·), fun h => absurd ‹k = oc› (bne_iff_ne.mp h.2)⟩
      · exact ⟨fun h => ⟨h, bne_iff_ne.mpr ‹_›⟩, And.left⟩
    · exact h3 k1 k2 s (get_del_some g1).2 (get_del_some g2).2
    · exact h4 k s (get_del_some g).2

theorem run_inv (bound : Nat) (ops : List Op) : ∀ (t : CTab), Inv t → Inv (run bound t ops).1 := by
  induction ops with
  | nil => intro t h; exact h
  | cons op ops ih => intro t h; simp only [run]; exact ih _ (step_inv bound t op h)

/-- After any history, two different outgoing channels never belong to the same session (that the relay
    under a channel is that of a live slot of the slab is `Inv.keys`, kept by `run_inv`). -/
theorem one_channel_per_session (bound : Nat) (ops : List Op) (k1 k2 s : Nat)
    (g1 : get k1 (run bound CTab.empty ops).1.bySlot = some s)
    (g2 : get k2 (run bound CTab.empty ops).1.bySlot = some s) : k1 = k2 :=
  (run_inv bound ops CTab.empty empty_inv).sids k1 k2 s g1 g2

/-- generated obligation: the table operations the model mirrors are present in connection/mod.rs, in
    the model's order -/
theorem source_channel_shape : sourceShape = true := by decide

/-- three sessions on peer channels 7, 0, 65535; the first is ended by both sides and its outgoing
    channel 0 goes to a fourth session, whose begin the peer answers on channel 7 again -/
example : (run 10 CTab.empty [.alloc, .alloc, .alloc, .inBegin 7 (some 0), .inBegin 0 (some 1), .inBegin 65535 (some 2),
    .inFrame 0, .inFrame 7, .inEnd 7, .dealloc 0, .inFrame 7, .alloc, .inBegin 7 (some 0), .inFrame 7,
    .inBegin 9 (some 5), .inBegin 9 none]).2 =
    [.allocated 0 0, .allocated 1 1, .allocated 2 2, .to 0, .to 1, .to 2, .to 1, .to 0, .to 0, .done, .notFound,
     .allocated 3 0, .to 3, .to 3, .notFound, .remotelyInitiated] := by decide

end Amqp.ChanRouting
