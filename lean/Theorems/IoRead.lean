/-
  C20 — the io reader refines the slice reader: every operation of the `Read` trait on an `IoReader`
  returns what it returns on a `SliceReader` over the bytes not yet handed out, fails exactly when
  that one fails, and leaves an io reader that stands for the slice reader's new state — so a decoder
  written against the trait sees the same bytes and counts the same bytes consumed from either.
-/
import Amqp.IoRead

namespace Amqp.IoRead

theorem srcExact_some {src : Bytes} {n : Nat} {a b : Bytes} (h : srcExact src n = some (a, b)) :
    src = a ++ b ∧ a.length = n := by
  unfold srcExact at h
  split at h
  · cases h
  · cases h
    exact ⟨(List.take_append_drop n src).symm, List.length_take_of_le (Nat.le_of_not_lt ‹_›)⟩

theorem srcExact_none (src : Bytes) (n : Nat) : srcExact src n = none ↔ src.length < n := by
  unfold srcExact; split <;> simp_all

/-- `fill` in the form that goes through by induction: the buffer length reached, as a `max`; a failure with
    fuel to spare means the reader is short -/
theorem fill_spec (fuel : Nat) (r : Io) (len : Nat) :
    match fill fuel r len with
    | some r' => r'.buf ++ r'.src = r.buf ++ r.src ∧ r'.consumed = r.consumed ∧
        r'.buf.length = max len r.buf.length
    | none => len - r.buf.length < fuel → (r.buf ++ r.src).length < len := by
  fun_induction fill fuel r len with
  | case1 r len h => exact nofun
  | case2 r len h | case5 fuel r len h => exact ⟨rfl, rfl, (Nat.max_eq_right (Nat.le_of_not_lt h)).symm⟩
  | case3 fuel r len h step hs =>
    intro _
    rw [List.length_append]
    exact Nat.add_lt_of_lt_sub' (Nat.lt_of_lt_of_le ((srcExact_none _ _).mp hs) (Nat.min_le_left _ _))
  | case4 fuel r len h step piece rest hs ih =>
    obtain ⟨hsrc, hlen⟩ := srcExact_some hs
    rw [hsrc, ← List.append_assoc]
    generalize fill fuel _ len = o at ih ⊢
    cases o with
    | some r' =>
      refine ⟨ih.1, ih.2.1, ?_⟩
      have : (r.buf ++ piece).length ≤ len := by
        rw [List.length_append, hlen]
        exact Nat.add_le_of_le_sub' (Nat.le_of_lt h) (Nat.min_le_left _ _)
      rw [ih.2.2, Nat.max_eq_left this, Nat.max_eq_left (Nat.le_of_lt h)]
    | none =>
      intro hf
      refine ih ?_
      have hpos : 0 < piece.length := by
        rw [hlen]; exact Nat.lt_min.mpr ⟨Nat.sub_pos_of_lt h, by decide⟩
      rw [List.length_append, Nat.sub_add_eq]
      exact Nat.lt_of_lt_of_le (Nat.sub_lt (Nat.sub_pos_of_lt h) hpos) (Nat.le_of_lt_succ hf)

/-- what `fill_buffer` does when it succeeds: nothing is lost, nothing is counted, the buffer holds
    `len` bytes (exactly `len` if it held fewer before) -/
theorem fill_some : ∀ (fuel : Nat) (r r' : Io) (len : Nat), fill fuel r len = some r' →
    r'.buf ++ r'.src = r.buf ++ r.src ∧ r'.consumed = r.consumed ∧ len ≤ r'.buf.length ∧
    (r.buf.length < len → r'.buf.length = len) := by
  intro fuel r r' len h
  have := fill_spec fuel r len
  rw [h] at this
  obtain ⟨h1, h2, h3⟩ := this
  exact ⟨h1, h2, h3 ▸ Nat.le_max_left _ _, fun hlt => h3.trans (Nat.max_eq_left (Nat.le_of_lt hlt))⟩

/-- `fill_buffer` fails exactly when the reader does not have `len` bytes left -/
theorem fill_none : ∀ (fuel : Nat) (r : Io) (len : Nat), len - r.buf.length < fuel →
    (fill fuel r len = none ↔ (r.buf ++ r.src).length < len) := by
  intro fuel r len hf
  have := fill_spec fuel r len
  generalize fill fuel r len = o at this ⊢
  cases o with
  | none => exact ⟨fun _ => this hf, fun _ => rfl⟩
  | some r' =>
    refine ⟨nofun, fun hc => ?_⟩
    rw [← this.1, List.length_append] at hc
    exact absurd (Nat.lt_of_le_of_lt (Nat.le_add_right _ _) hc) (Nat.not_lt.mpr (this.2.2 ▸ Nat.le_max_left _ _))

theorem fillBuffer_cases (r : Io) (len : Nat) :
    (r.fillBuffer len = none ∧ (abs r).rest.length < len) ∨
    ∃ r', r.fillBuffer len = some r' ∧ ¬ (r'.buf ++ r'.src).length < len ∧ abs r' = abs r ∧
      len ≤ r'.buf.length := by
  have hn := fill_none (len + 1) r len (Nat.lt_succ_of_le (Nat.sub_le _ _))
  unfold Io.fillBuffer
  cases hf : fill (len + 1) r len with
  | none => exact .inl ⟨rfl, hn.mp hf⟩
  | some r' =>
    obtain ⟨h1, h2, h3, _⟩ := fill_some _ _ _ _ hf
    refine .inr ⟨r', rfl, fun hc => ?_, ?_, h3⟩
    · rw [h1] at hc; exact nomatch hf.symm.trans (hn.mpr hc)
    · show Sl.mk _ _ = Sl.mk _ _
      rw [h1, h2]

theorem peek_refines (r : Io) : (r.peek).1 = (abs r).peek ∧ abs (r.peek).2 = abs r := by
  obtain ⟨buf, src, c⟩ := r
  cases buf with
  | cons b bs => exact ⟨rfl, rfl⟩
  | nil => cases src <;> exact ⟨rfl, rfl⟩

/-- the shape of `io_refines_slice`'s clauses, from an equation -/
theorem refines_of_map_eq {α β γ : Type} {f : β → γ} {x : Option (α × β)} {y : Option (α × γ)}
    (h : x.map (fun p => (p.1, f p.2)) = y) :
    (x = none ↔ y = none) ∧ ∀ a b, x = some (a, b) → y = some (a, f b) := by
  subst h
  cases x with
  | none => exact ⟨⟨fun _ => rfl, fun _ => rfl⟩, nofun⟩
  | some p => exact ⟨⟨nofun, nofun⟩, fun a b h => by cases h; rfl⟩

theorem next_abs (r : Io) : r.next.map (fun p => (p.1, abs p.2)) = (abs r).next := by
  obtain ⟨buf, src, c⟩ := r
  cases buf with
  | cons b bs => rfl
  | nil => cases src <;> rfl

/-- the test `peek_bytes` makes first is the one `fill_buffer` starts with -/
theorem peekBytes_eq (r : Io) (n : Nat) :
    r.peekBytes n = match r.fillBuffer n with
      | none => none
      | some r' => some (r'.buf.take n, r') := by
  unfold Io.peekBytes
  split
  · rfl
  · rw [Io.fillBuffer, fill, if_neg ‹_›]

theorem peekBytes_refines (r : Io) (n : Nat) :
    (r.peekBytes n = none ↔ (abs r).peekBytes n = none) ∧
    (∀ bs r', r.peekBytes n = some (bs, r') → (abs r).peekBytes n = some bs ∧ abs r' = abs r) := by
  rw [peekBytes_eq]
  rcases fillBuffer_cases r n with ⟨hf, hs⟩ | ⟨r1, hf, hs, ha, hl⟩
  · rw [hf, Sl.peekBytes, if_pos hs]
    exact ⟨⟨fun _ => rfl, fun _ => rfl⟩, nofun⟩
  · rw [hf, ← ha, Sl.peekBytes, abs, if_neg hs, List.take_append_of_le_length hl]
    exact ⟨⟨nofun, nofun⟩, fun bs r' h => by cases h; exact ⟨rfl, rfl⟩⟩

theorem readExact_abs (r : Io) (n : Nat) :
    (r.readExact n).map (fun p => (p.1, abs p.2)) = (abs r).readExact n := by
  unfold Io.readExact Sl.readExact srcExact abs
  by_cases hlt : r.buf.length < n
  · rw [if_pos hlt]
    by_cases hs : r.src.length < n - r.buf.length
    · rw [if_pos hs, if_pos (by rw [List.length_append]; exact Nat.lt_sub_iff_add_lt'.mp hs)]; rfl
    · rw [if_neg hs, if_neg (by rw [List.length_append]; exact fun h => hs (Nat.lt_sub_iff_add_lt'.mpr h))]
      simp only [Option.map_some, List.nil_append, List.take_append, List.drop_append,
        List.take_of_length_le (Nat.le_of_lt hlt), List.drop_of_length_le (Nat.le_of_lt hlt)]
  · have hle : n ≤ r.buf.length := Nat.le_of_not_lt hlt
    rw [if_neg hlt, if_neg (Nat.not_lt.mpr (by rw [List.length_append]; exact Nat.le_add_right_of_le hle))]
    simp only [Option.map_some, List.take_append_of_le_length hle, List.drop_append_of_le_length hle]

/-- `forward_read_bytes_with_hint` / `forward_read_str` hand out what `read_exact` hands out -/
theorem forwardBytes_abs (r : Io) (n : Nat) :
    (r.forwardBytes n).map (fun p => (p.1, abs p.2)) = (abs r).readExact n := by
  unfold Io.forwardBytes
  rcases fillBuffer_cases r n with ⟨hf, hs⟩ | ⟨r1, hf, hs, ha, hl⟩
  · rw [hf, Sl.readExact, if_pos hs]; rfl
  · rw [hf, ← ha, Sl.readExact, abs, if_neg hs]
    simp only [Option.map_some, List.take_append_of_le_length hl, List.drop_append_of_le_length hl]
    rfl

/-- C20. Whatever the stream's chunking: on every reader state, each of `peek`, `next`, `peek_bytes`,
    `read_exact` and the forwarding reads returns on the io reader what it returns on the slice reader over
    the bytes not yet handed out, fails exactly when that one fails, and the two readers then stand for the
    same remaining bytes and the same count of bytes consumed. -/
theorem io_refines_slice (r : Io) (n : Nat) :
    ((r.peek).1 = (abs r).peek ∧ abs (r.peek).2 = abs r) ∧
    ((r.next = none ↔ (abs r).next = none) ∧ ∀ b r', r.next = some (b, r') → (abs r).next = some (b, abs r')) ∧
    ((r.peekBytes n = none ↔ (abs r).peekBytes n = none) ∧
      ∀ bs r', r.peekBytes n = some (bs, r') → (abs r).peekBytes n = some bs ∧ abs r' = abs r) ∧
    ((r.readExact n = none ↔ (abs r).readExact n = none) ∧
      ∀ bs r', r.readExact n = some (bs, r') → (abs r).readExact n = some (bs, abs r')) ∧
    ((r.forwardBytes n = none ↔ (abs r).readExact n = none) ∧
      ∀ bs r', r.forwardBytes n = some (bs, r') → (abs r).readExact n = some (bs, abs r')) :=
  ⟨peek_refines r, refines_of_map_eq (next_abs r), peekBytes_refines r n, refines_of_map_eq (readExact_abs r n),
    refines_of_map_eq (forwardBytes_abs r n)⟩

/-- generated obligation: the buffer and counter operations the model mirrors are present in
    read/ioread.rs, in the model's order -/
theorem source_io_shape : sourceShape = true := by decide
theorem source_stream_only_through_read_exact : streamOnlyThroughReadExact = true := by decide

/-- non-vacuity: a reader with a byte looked at and a stream behind it -/
example : (Io.readExact { buf := [1], src := [2, 3, 4], consumed := 5 } 3) =
    some ([1, 2, 3], { buf := [], src := [4], consumed := 8 }) := by decide

end Amqp.IoRead
