/-
  C02 — the dispositions of a batch disposal name exactly the deliveries of the batch, each once, and
  each disposition's deliveries share the mode that decides its settled flag.
-/
import Amqp.Dispose

namespace Amqp.Dispose
open Amqp.Gen.Settle

theorem source_dispose_shape : sourceShape = true := by decide

/-- specification: the batch cut into maximal runs of joining neighbours.  `[[]]` for the empty batch: the
    walk of `dispose_all` always ends with the slice after the last cut (`dispOf` writes nothing for an
    empty one); the arm `| [] => [[a]]` is never taken (`runs_cons`). -/
def runs : List Info → List (List Info)
  | [] => [[]]
  | [a] => [[a]]
  | a :: b :: rest =>
    match runs (b :: rest) with
    | r :: rs => if joins a b then (a :: r) :: rs else [a] :: r :: rs
    | [] => [[a]]

theorem runs_cons : ∀ (b : Info) (rest : List Info), ∃ r rs, runs (b :: rest) = (b :: r) :: rs
  | b, [] => ⟨[], [], rfl⟩
  | b, c :: rest => by
    obtain ⟨r, rs, hr⟩ := runs_cons c rest
    rw [runs, hr]
    by_cases hj : joins b c = true
    · exact ⟨c :: r, rs, if_pos hj⟩
    · exact ⟨[], (c :: r) :: rs, if_neg hj⟩

theorem runs_cons_cons {a b : Info} {rest r : List Info} {rs : List (List Info)} (hr : runs (b :: rest) = r :: rs) :
    runs (a :: b :: rest) = if joins a b then (a :: r) :: rs else [a] :: r :: rs := by
  rw [runs, hr]

theorem chunkInds_succ : ∀ (l : List Info) (i : Nat), chunkInds (i + 1) l = (chunkInds i l).map (· + 1)
  | [], _ => rfl
  | [_], _ => rfl
  | a :: b :: rest, i => by
    rw [chunkInds, chunkInds, chunkInds_succ (b :: rest) (i + 1)]
    split <;> rfl

theorem slices_cons (a : Info) (L : List Info) : ∀ (inds : List Nat) (prev : Nat),
    slices (a :: L) (prev + 1) (inds.map (· + 1)) = slices L prev inds
  | [], _ => rfl
  | ind :: inds, prev => by
    rw [List.map_cons, slices, slices, slices_cons a L inds ind, List.drop_succ_cons, Nat.add_sub_add_right]

theorem slices_zero_cons (a : Info) (L r : List Info) (rs : List (List Info)) :
    ∀ (inds : List Nat), slices L 0 inds = r :: rs → slices (a :: L) 0 (inds.map (· + 1)) = (a :: r) :: rs
  | [], h => by
    cases h
    rfl
  | ind :: inds, h => by
    rw [List.map_cons, slices, slices_cons]
    cases h
    rfl

/-- `dispose_all`'s walk over the indices yields the runs -/
theorem walk_is_runs (infos : List Info) : slices infos 0 (chunkInds 0 infos) = runs infos := by
  match infos with
  | [] => rfl
  | [_] => rfl
  | a :: b :: rest =>
    have ih := walk_is_runs (b :: rest)
    obtain ⟨r, rs, hr⟩ := runs_cons b rest
    rw [runs_cons_cons hr, chunkInds, chunkInds_succ]
    rw [hr] at ih
    split
    · exact slices_zero_cons a _ _ _ _ ih
    · rw [slices, slices_cons, ih]
      rfl

theorem runs_flatten : ∀ (l : List Info), (runs l).flatten = l
  | [] => rfl
  | [_] => rfl
  | a :: b :: rest => by
    have ih := runs_flatten (b :: rest)
    obtain ⟨r, rs, hr⟩ := runs_cons b rest
    rw [runs_cons_cons hr]
    rw [hr] at ih
    split <;> simp [← ih]

theorem joins_spec (a b : Info) (h : joins a b = true) : b.id = a.id + 1 ∧ a.mode = b.mode := by
  simp only [joins, is_consecutive.value, psub32, Bool.and_eq_true, beq_iff_eq] at h
  exact ⟨by omega, h.2⟩

/-- in a run the ids count up from the first one and the mode is the first one's -/
def RunOk : List Info → Prop
  | [] => True
  | a :: r => (a :: r).map (·.id) = List.range' a.id (r.length + 1) ∧
      ((a :: r).getLast (by simp)).id = a.id + r.length ∧ ∀ x ∈ a :: r, x.mode = a.mode

theorem runOk_cons (a b : Info) (r : List Info) (hj : joins a b = true) (h : RunOk (b :: r)) : RunOk (a :: b :: r) := by
  obtain ⟨hid, hmode⟩ := joins_spec a b hj
  obtain ⟨i1, i2, i3⟩ := h
  refine ⟨?_, ?_, ?_⟩
  · rw [List.map_cons, i1, hid]
    rfl
  · rw [List.getLast_cons (by simp), i2, hid, List.length_cons]; omega
  · intro x hx
    rcases List.mem_cons.mp hx with rfl | hx
    · rfl
    · rw [i3 x hx, hmode]

theorem runs_ok : ∀ (l : List Info), ∀ r ∈ runs l, RunOk r
  | [] => by intro r hr; cases List.mem_singleton.mp hr; trivial
  | [a] => by intro r hr; cases List.mem_singleton.mp hr; exact ⟨rfl, rfl, fun x hx => by rw [List.mem_singleton.mp hx]⟩
  | a :: b :: rest => by
    have ih := runs_ok (b :: rest)
    obtain ⟨r, rs, hr⟩ := runs_cons b rest
    rw [runs_cons_cons hr]
    rw [hr] at ih
    intro q hq
    split at hq
    · rcases List.mem_cons.mp hq with rfl | hq
      · exact runOk_cons a b r ‹_› (ih _ List.mem_cons_self)
      · exact ih q (List.mem_cons_of_mem _ hq)
    · rcases List.mem_cons.mp hq with rfl | hq
      · exact ⟨rfl, rfl, fun x hx => by rw [List.mem_singleton.mp hx]⟩
      · exact ih q hq

theorem run_named_exactly (r : List Info) (hj : RunOk r) (d : Disp) (hd : dispOf r = some d) :
    named d = r.map (·.id) ∧ ∀ x ∈ r, x.mode = d.mode := by
  cases r with
  | nil => cases hd
  | cons a rest =>
    cases hd
    obtain ⟨i1, i2, i3⟩ := hj
    refine ⟨?_, i3⟩
    rw [named, i1]
    simp only [i2, Nat.add_sub_cancel_left]

theorem flatMap_named : ∀ (rs : List (List Info)), (∀ r ∈ rs, RunOk r) →
    (rs.filterMap dispOf).flatMap named = rs.flatten.map (·.id)
  | [], _ => rfl
  | r :: rs, h => by
    have ih := flatMap_named rs (fun q hq => h q (List.mem_cons_of_mem _ hq))
    cases r with
    | nil => exact ih
    | cons a rest =>
      obtain ⟨e, _⟩ := run_named_exactly (a :: rest) (h _ List.mem_cons_self) _ rfl
      rw [List.filterMap_cons_some (f := dispOf) (a := a :: rest) rfl, List.flatMap_cons, e, ih, List.flatten_cons,
        List.map_append]

/-- Whatever deliveries a batch disposal is given — in any order after the sort, with gaps, with
    neighbours of different rcv-settle-modes, with the same delivery twice — the dispositions
    `dispose_all` writes name, read in order, exactly the deliveries of the batch: every one of
    them once per occurrence, none that is not in the batch. -/
theorem batch_named_exactly (infos : List Info) :
    (disposeAll infos).flatMap named = infos.map (·.id) := by
  unfold disposeAll
  rw [walk_is_runs, flatMap_named _ (runs_ok infos), runs_flatten]

/-- Every delivery of the batch is named by a disposition whose settled flag is derived from that
    delivery's own rcv-settle-mode. -/
theorem batch_modes_uniform (infos : List Info) :
    ∀ r ∈ slices infos 0 (chunkInds 0 infos), ∀ d, dispOf r = some d → ∀ x ∈ r, x.mode = d.mode := by
  intro r hr d hd
  rw [walk_is_runs] at hr
  exact (run_named_exactly r (runs_ok infos r hr) d hd).2

/-- From the call on: whatever deliveries the application passes, in whatever order, the
    dispositions written name — up to order — exactly those of them that are still in the
    unsettled map, each once per occurrence. -/
theorem batch_named_full (infos : List Info) (unsettled : Info → Bool) :
    ((disposeAllFull infos unsettled).flatMap named).Perm ((infos.filter unsettled).map (·.id)) := by
  unfold disposeAllFull
  rw [batch_named_exactly]
  exact ((List.mergeSort_perm infos _).filter unsettled).map _

/-- non-vacuity: ids 3 4 5 with a mode change after 4, a gap, then 9 twice -/
example : disposeAll [⟨3, none⟩, ⟨4, none⟩, ⟨5, some true⟩, ⟨9, none⟩, ⟨9, none⟩] =
    [⟨3, 4, none⟩, ⟨5, 5, some true⟩, ⟨9, 9, none⟩, ⟨9, 9, none⟩] := by decide

/-- a chunking that ignored the mode would put 5 under 3's settled flag -/
example : (disposeAll [⟨3, none⟩, ⟨4, none⟩, ⟨5, some true⟩]).length = 2 := by decide

end Amqp.Dispose
