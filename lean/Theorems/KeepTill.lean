/-
  C10 — rewinding a delivery under way keeps exactly the bytes before the point.
-/
import Amqp.KeepTill

namespace Amqp.KeepTill

theorem source_keep_shape : keepShape = true := by decide

theorem keepLoop_found (cs : List Bytes) (index : Nat) : (keepLoop cs index true).flatten = [] := by
  induction cs with
  | nil => simp [keepLoop]
  | cons c cs ih => simp [keepLoop, source_keep_shape, ih]

/-- C10. However the bytes received so far are spread over chunks (one per frame, empty
    chunks among them), what the rewind keeps is their first `index` bytes and nothing else. -/
theorem keep_is_take : ∀ (buf : List Bytes) (index : Nat),
    (keepLoop buf index false).flatten = buf.flatten.take index
  | [], index => by simp [keepLoop]
  | c :: cs, index => by
    by_cases h : c.length < index
    · have ih := keep_is_take cs (index - c.length)
      simp only [keepLoop, Bool.false_eq_true, if_false, h, if_true, List.flatten_cons, ih, List.take_append]
      rw [List.take_of_length_le (Nat.le_of_lt h)]
    · have hle : index ≤ c.length := Nat.le_of_not_lt h
      simp only [keepLoop, Bool.false_eq_true, if_false, h, List.flatten_cons, keepLoop_found, List.append_nil,
        List.take_append]
      rw [Nat.sub_eq_zero_of_le hle, List.take_zero, List.append_nil]

/-- the number of chunks stays (each frame's chunk is cut or emptied in place) -/
theorem keep_length : ∀ (buf : List Bytes) (index : Nat) (found : Bool),
    (keepLoop buf index found).length = buf.length
  | [], _, _ => by simp [keepLoop]
  | c :: cs, index, found => by
    cases found
    · by_cases h : c.length < index <;> simp [keepLoop, h, keep_length cs]
    · simp [keepLoop, keep_length cs]

/-- C10. A sender that rewinds to a point the counting finds (`index`) and sends the message again from there:
    what the receiver then holds is the message, whatever the cuts were before and whatever they are now. -/
theorem rewind_then_resend (msg : Bytes) (buf : List Bytes) (index : Nat) (resent : List Bytes)
    (hb : ∃ rest, buf.flatten ++ rest = msg) (hi : index ≤ buf.flatten.length)
    (hr : resent.flatten = msg.drop index) :
    (keepLoop buf index false ++ resent).flatten = msg := by
  obtain ⟨rest, hm⟩ := hb
  rw [List.flatten_append, keep_is_take, hr, ← hm]
  have h1 : List.take index buf.flatten = List.take index (buf.flatten ++ rest) :=
    (List.take_append_of_le_length hi).symm
  rw [h1]
  exact List.take_append_drop index (buf.flatten ++ rest)

/-- why the later chunks are emptied: were each of them cut at the same index instead (`keepLoopOld`), bytes
    beyond the point would stay -/
example : (keepLoopOld [[1, 2, 3, 4], [5, 6, 7, 8]] 2).flatten = [1, 2, 5, 6] ∧
    (keepLoop [[1, 2, 3, 4], [5, 6, 7, 8]] 2 false).flatten = [1, 2] := by decide

/-- the position is found where the counting says: in a message that opens with a section header, section 1
    offset k is byte k -/
example : position [[0x00, 0x53, 0x77, 0xa0], [0x02, 1, 2, 9, 9]] 1 3 = some 3 := by decide

end Amqp.KeepTill
