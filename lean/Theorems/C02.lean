/-
  C02 — settlement: each send resolves once, with its own delivery's outcome.

  Sender side: `Amqp.Settle.step / run` (session routing table, links' unsettled maps,
  oneshots).  Receiver side: `Amqp.Settle.rstep / rrun`.
  All theorems quantify over every disposition history (any ranges, duplicates, unknown
  ids, settled and unsettled, terminal, non-terminal and absent states, ids around 2^32).
-/
import Theorems.Lemmas.SettleRuns
import Theorems.Lemmas.SettleKnown
import Theorems.Dispose
import Theorems.Resume

namespace Amqp.Settle

/-- well-formed tables: delivery-ids unique (C11), tags unique per link, ids are u32 -/
structure WF (s : St) : Prop where
  ids : IdsNodup s.byId
  tags : TagsInj s.byId
  lt : ∀ e ∈ s.byId, e.id < 4294967296

/-- an operation the endpoint can be asked to perform in state `s`: an unsettled send uses a
    fresh delivery-id (C11: ids are never reused while outstanding) and a fresh tag -/
def OpOk (s : St) : Op → Prop
  | .send link tag id settled =>
      settled = true ∨ (id < 4294967296 ∧ (∀ e ∈ s.byId, e.id ≠ id) ∧ (∀ e ∈ s.byId, ¬ (e.link = link ∧ e.tag = tag)))
  | .disp first _ _ _ => first < 4294967296

def HistOk : St → List Op → Prop
  | _, [] => True
  | s, op :: ops => OpOk s op ∧ HistOk (step s op).1 ops

theorem wf_init (second : List Bool) : WF (init second) :=
  ⟨by simp [init, IdsNodup], by intro e he; simp [init] at he, by intro e he; simp [init] at he⟩

/-- A pre-settled send completes as accepted without waiting, and leaves no state. -/
theorem presettled_completes_at_once (s : St) (link tag id : Nat) :
    step s (.send link tag id true) = (s, [.resolved link tag .accepted]) := by
  simp [step]

theorem step_disp (s : St) (first last : Nat) (settled : Bool) (st : DS) :
    step s (.disp first last settled st) =
      ((sweep st (settled || st.terminal) (fun e => settled || (isSecond s e.link && !st.inProgress))
          (knownIds s.byId first last) s).1,
       (sweep st (settled || st.terminal) (fun e => settled || (isSecond s e.link && !st.inProgress))
          (knownIds s.byId first last) s).2 ++
        if settled then []
        else ((echoedIds st (knownIds s.byId first last) s).foldl pushRun []).reverse.map
          (fun r => Out.echo r.1 r.2 st)) := by
  cases settled with
  | true => simp only [step, if_true, settleIds_eq_sweep, Bool.true_or, List.append_nil]
  | false =>
    simp only [step, Bool.false_eq_true, if_false, updateIds_eq_sweep st _ _ s [] rfl, Bool.false_or, isSecond]

theorem disp_spec (s : St) (h : WF s) (first last : Nat) (hf : first < 4294967296) (settled : Bool) (st : DS) :
    Swept st (settled || st.terminal) (fun e => settled || (isSecond s e.link && !st.inProgress))
      (fun e => e ∈ s.byId ∧ InRange first last e.id) s (step s (.disp first last settled st)) := by
  -- the walk visits the ids of the range that the table has
  have named : (fun e => e ∈ s.byId ∧ e.id ∈ knownIds s.byId first last) = fun e => e ∈ s.byId ∧ InRange first last e.id :=
    funext fun e => propext (and_congr_right fun he =>
      (mem_knownIds _ _ _ _ hf h.lt).trans (and_iff_right ⟨e, he, rfl⟩))
  obtain ⟨a, b, c, d⟩ := sweep_spec st (settled || st.terminal)
    (fun e => settled || (isSecond s e.link && !st.inProgress)) (knownIds s.byId first last) s h.ids
  have e := step_disp s first last settled st
  generalize sweep st _ _ _ s = sw at a b c d e
  rw [e, ← named]
  refine ⟨a, b, fun l t st' => Iff.trans ?_ (c l t st'), d⟩
  -- the echoes are not completions
  rw [List.mem_append, or_iff_left]
  split
  · exact fun h => nomatch h
  · exact fun h => nomatch (List.mem_map.mp h).choose_spec.2

theorem WF.snoc {s s' : St} (h : WF s) (e : Entry) (hb : s'.byId = s.byId ++ [e]) (hid : e.id < 4294967296)
    (hfresh : ∀ x ∈ s.byId, x.id ≠ e.id) (hfreshTag : ∀ x ∈ s.byId, ¬ (x.link = e.link ∧ x.tag = e.tag)) :
    WF s' := by
  have mem : ∀ x, x ∈ s'.byId ↔ x ∈ s.byId ∨ x = e := fun x => by
    rw [hb, List.mem_append, List.mem_singleton]
  refine ⟨?_, fun a ha b hb' h1 h2 => ?_, fun x hx => ?_⟩
  · unfold IdsNodup
    rw [hb, List.map_append, List.nodup_append]
    refine ⟨h.ids, List.nodup_cons.mpr ⟨List.not_mem_nil, List.nodup_nil⟩, fun a ha b hb' => ?_⟩
    obtain ⟨x, hx, rfl⟩ := List.mem_map.mp ha
    rw [List.mem_singleton.mp hb']
    exact hfresh x hx
  · rcases (mem a).mp ha with ha | rfl <;> rcases (mem b).mp hb' with hb' | rfl
    · exact h.tags a ha b hb' h1 h2
    · exact absurd ⟨h1, h2⟩ (hfreshTag a ha)
    · exact absurd ⟨h1.symm, h2.symm⟩ (hfreshTag b hb')
    · rfl
  · rcases (mem x).mp hx with hx | rfl
    · exact h.lt x hx
    · exact hid

theorem wf_step (s : St) (op : Op) (h : WF s) (hok : OpOk s op) : WF (step s op).1 := by
  cases op with
  | send link tag id settled =>
    cases settled with
    | true => exact h
    | false =>
      rcases hok with hc | ⟨hid, hfresh, hfreshTag⟩
      · cases hc
      · exact h.snoc ⟨id, link, tag⟩ rfl hid hfresh hfreshTag
  | disp first last settled st =>
    -- the table after a disposition is a sub-table of the one before
    have sp := disp_spec s h first last hok settled st
    exact ⟨sp.ids, fun x hx y hy => h.tags x ((sp.byId x).mp hx).1 y ((sp.byId y).mp hy).1,
      fun e he => h.lt e ((sp.byId e).mp he).1⟩

theorem wf_run (ops : List Op) : ∀ (s : St), WF s → HistOk s ops → WF (run s ops).1 := by
  induction ops with
  | nil => intro s h _; simpa [run] using h
  | cons op ops ih =>
    intro s h hok
    simp only [run]
    exact ih _ (wf_step s op h hok.1) hok.2

/-- When a disposition makes a send complete, it completes with exactly the state that disposition carries,
    the send was still waiting, the disposition was settling or its state terminal, and the delivery-id of
    that send lies in the disposition's serial range: never with another delivery's outcome. -/
theorem own_outcome (s : St) (h : WF s) (first last : Nat) (hf : first < 4294967296) (settled : Bool) (st st' : DS)
    (l t : Nat) (ho : Out.resolved l t st' ∈ (step s (.disp first last settled st)).2) :
    st' = st ∧ (settled = true ∨ st.terminal = true) ∧ (l, t) ∈ s.unsettled ∧
    ∃ e ∈ s.byId, e.link = l ∧ e.tag = t ∧ InRange first last e.id := by
  obtain ⟨hfin, e, ⟨he, hr⟩, hheld, heq⟩ := ((disp_spec s h first last hf settled st).out l t st').mp ho
  cases heq
  exact ⟨rfl, by simpa using hfin, hheld, e, he, rfl, rfl, hr⟩

/-- sends of (l, t) in a history -/
def sendsOf (l t : Nat) : List Op → Nat
  | [] => 0
  | .send l' t' _ _ :: ops => (if l' = l ∧ t' = t then 1 else 0) + sendsOf l t ops
  | _ :: ops => sendsOf l t ops

theorem countRes_echoes (l t : Nat) (st : DS) (runs : List (Nat × Nat)) :
    countRes l t (runs.map (fun r => Out.echo r.1 r.2 st)) = 0 := by
  induction runs with
  | nil => rfl
  | cons r rs ih => exact ih

theorem step_count (s : St) (op : Op) (l t : Nat) :
    countRes l t (step s op).2 + heldN (step s op).1 l t ≤ heldN s l t + sendsOf l t [op] := by
  cases op with
  | send l' t' id settled =>
    cases settled with
    | true =>
      simp only [step, if_true, sendsOf, countRes, List.filter_cons, isRes, Bool.and_eq_true, beq_iff_eq]
      split
      · exact Nat.le_of_eq (Nat.add_comm ..)
      · exact Nat.le_of_eq (Nat.zero_add _)
    | false =>
      simp only [step, Bool.false_eq_true, if_false, sendsOf, countRes_nil, heldN, List.mem_append, List.mem_singleton, Prod.mk.injEq]
      by_cases h : l' = l ∧ t' = t
      · simp [h]
      · have h' : ¬ (l = l' ∧ t = t') := fun hh => h ⟨hh.1.symm, hh.2.symm⟩
        simp [h, h']
  | disp first last settled st =>
    have hc := sweep_count st (settled || st.terminal) (fun e => settled || (isSecond s e.link && !st.inProgress)) l t
      (knownIds s.byId first last) s
    have e := step_disp s first last settled st
    generalize sweep st _ _ _ s = sw at hc e
    rw [e, countRes_append]
    cases settled
    · rw [if_neg Bool.false_ne_true, countRes_echoes]
      exact hc
    · exact hc

theorem run_count (l t : Nat) (ops : List Op) : ∀ (s : St),
    countRes l t (run s ops).2 + heldN (run s ops).1 l t ≤ heldN s l t + sendsOf l t ops := by
  induction ops with
  | nil => intro s; simp [run, countRes_nil, sendsOf]
  | cons op ops ih =>
    intro s
    simp only [run, countRes_append]
    have h1 := step_count s op l t
    have h2 := ih (step s op).1
    have h3 : sendsOf l t (op :: ops) = sendsOf l t [op] + sendsOf l t ops := by
      cases op <;> simp [sendsOf]
    omega

/-- Exactly-once, upper half.  Over any history whatsoever — any dispositions, repeated,
    overlapping, out of order — the send future of a delivery completes at most as many times
    as the delivery was sent: a delivery sent once (and not already waiting) completes at most
    once. -/
theorem completes_at_most_once (second : List Bool) (ops : List Op) (l t : Nat) (h1 : sendsOf l t ops ≤ 1) :
    countRes l t (run (init second) ops).2 ≤ 1 := by
  have := run_count l t ops (init second)
  have h0 : heldN (init second) l t = 0 := by simp [heldN, init]
  omega

/-- Exactly-once, lower half (liveness).  A waiting send whose delivery-id lies in the
    range of a disposition that settles, or reports a terminal state, completes at that
    disposition (with its state, by `own_outcome`). -/
theorem completes (s : St) (h : WF s) (first last : Nat) (hf : first < 4294967296) (settled : Bool) (st : DS)
    (e : Entry) (he : e ∈ s.byId) (hr : InRange first last e.id) (hheld : (e.link, e.tag) ∈ s.unsettled)
    (hs : settled = true ∨ st.terminal = true) :
    Out.resolved e.link e.tag st ∈ (step s (.disp first last settled st)).2 :=
  ((disp_spec s h first last hf settled st).out _ _ _).mpr ⟨by simpa using hs, e, ⟨he, hr⟩, hheld, rfl⟩

/-- After settlement nothing is retained.  A settled disposition removes every delivery
    it names from the session's routing table and from the link's unsettled map; a terminal
    unsettled one removes it from the unsettled map. -/
theorem settled_forgets (s : St) (h : WF s) (first last : Nat) (hf : first < 4294967296) (st : DS)
    (e : Entry) (he : e ∈ s.byId) (hr : InRange first last e.id) :
    lookup (step s (.disp first last true st)).1.byId e.id = none ∧
    (e.link, e.tag) ∉ (step s (.disp first last true st)).1.unsettled := by
  have sp := disp_spec s h first last hf true st
  exact ⟨sp.gone ⟨he, hr⟩ he h.ids rfl, sp.let_go ⟨he, hr⟩ rfl⟩

theorem terminal_forgets (s : St) (h : WF s) (first last : Nat) (hf : first < 4294967296) (st : DS)
    (ht : st.terminal = true) (e : Entry) (he : e ∈ s.byId) (hr : InRange first last e.id) :
    (e.link, e.tag) ∉ (step s (.disp first last false st)).1.unsettled :=
  (disp_spec s h first last hf false st).let_go ⟨he, hr⟩ ht

/-- the settling dispositions among the outputs -/
def echoesOf : List Out → List (Nat × Nat × DS)
  | [] => []
  | .echo f l st :: os => (f, l, st) :: echoesOf os
  | _ :: os => echoesOf os

theorem echoesOf_append (a b : List Out) : echoesOf (a ++ b) = echoesOf a ++ echoesOf b := by
  induction a with
  | nil => rfl
  | cons o os ih => cases o <;> simp [echoesOf, ih]

theorem echoesOf_resolved_only (os : List Out) (h : ∀ o ∈ os, ∃ l t st, o = Out.resolved l t st) : echoesOf os = [] := by
  induction os with
  | nil => rfl
  | cons o os ih =>
    obtain ⟨l, t, st, rfl⟩ := h o (by simp)
    exact ih fun o ho => h o (List.mem_cons_of_mem _ ho)

theorem echoesOf_sweep (st : DS) (fin : Bool) (drop : Entry → Bool) (ids : List Nat) (s : St) :
    echoesOf (sweep st fin drop ids s).2 = [] := by
  fun_induction sweep st fin drop ids s with
  | case1 s => rfl
  | case2 id ids s h ih => exact ih
  | case3 id ids s e h ih =>
    simp only [echoesOf_append, ih, List.append_nil]
    exact echoesOf_resolved_only _ fun o ho => ⟨_, _, _, ((mem_touch_out ..).mp ho).2.2⟩

theorem echoesOf_map (st : DS) (runs : List (Nat × Nat)) :
    echoesOf (runs.map (fun r => Out.echo r.1 r.2 st)) = runs.map (fun r => (r.1, r.2, st)) := by
  induction runs with
  | nil => rfl
  | cons r rs ih => exact congrArg _ ih

theorem echoesOf_disp (s : St) (h : WF s) (first last : Nat) (st : DS) :
    echoesOf (step s (.disp first last false st)).2 =
      (((knownIds s.byId first last).filter (wantsEcho st s)).foldl pushRun []).reverse.map
        (fun r => (r.1, r.2, st)) := by
  rw [step_disp, echoesOf_append, echoesOf_sweep, List.nil_append, if_neg Bool.false_ne_true, echoesOf_map,
    echoedIds_eq_filter st _ s (knownIds_nodup s.byId first last h.ids)]

/-- For an unsettled disposition the delivery-ids named by the settling dispositions the endpoint sends back
    (each `first..last` expanded in serial order, concatenated) are exactly the deliveries the disposition
    names whose link is in rcv-settle-mode second — each once, none other — provided the state is not
    "in progress"; every one of them carries the state of the disposition it answers. No run is dropped. -/
theorem echo_exact (s : St) (h : WF s) (hlen : s.byId.length ≤ 2147483648) (first last : Nat)
    (hf : first < 4294967296) (st : DS) :
    ((echoesOf (step s (.disp first last false st)).2).map (fun x => expand (x.1, x.2.1))).flatten =
      (knownIds s.byId first last).filter (wantsEcho st s) ∧
    ∀ x ∈ echoesOf (step s (.disp first last false st)).2, x.2.2 = st := by
  rw [echoesOf_disp s h first last st]
  constructor
  · -- fewer ids than entries, so no run goes all the way round
    have hl : 0 + ((knownIds s.byId first last).filter (wantsEcho st s)).length < 4294967296 := by
      rw [Nat.zero_add]
      exact Nat.lt_of_le_of_lt (Nat.le_trans (List.length_filter_le ..)
        (Nat.le_trans (disposition_work_bounded s.byId first last) hlen)) (by decide)
    rw [List.map_map]
    refine (expandRuns_foldl _ [] (fun id hid => ?_) hl).trans (List.nil_append _)
    obtain ⟨⟨e, he, rfl⟩, _⟩ := (mem_knownIds _ _ _ _ hf h.lt).mp (List.mem_filter.mp hid).1
    exact h.lt e he
  · intro x hx
    obtain ⟨r, _, rfl⟩ := List.mem_map.mp hx
    rfl

/-- Every terminal report from a mode-second receiver is answered with a settling disposition. -/
theorem every_terminal_report_is_settled (s : St) (h : WF s) (hlen : s.byId.length ≤ 2147483648) (first last : Nat)
    (hf : first < 4294967296) (st : DS) (ht : st.terminal = true)
    (e : Entry) (he : e ∈ s.byId) (hr : InRange first last e.id) (h2 : isSecond s e.link = true) :
    e.id ∈ ((echoesOf (step s (.disp first last false st)).2).map (fun x => expand (x.1, x.2.1))).flatten := by
  rw [(echo_exact s h hlen first last hf st).1, List.mem_filter]
  refine ⟨(mem_knownIds _ _ _ _ hf h.lt).mpr ⟨⟨e, he, rfl⟩, hr⟩, ?_⟩
  simp [wantsEcho, lookup_of_mem s.byId e h.ids he, h2, terminal_not_inProgress st ht]

/-- … and after that echo the session has forgotten the delivery as well -/
theorem echoed_is_forgotten (s : St) (h : WF s) (first last : Nat) (hf : first < 4294967296) (st : DS)
    (ht : st.terminal = true) (e : Entry) (he : e ∈ s.byId) (hr : InRange first last e.id)
    (h2 : isSecond s e.link = true) :
    lookup (step s (.disp first last false st)).1.byId e.id = none :=
  (disp_spec s h first last hf false st).gone ⟨he, hr⟩ he h.ids (by simp [h2, terminal_not_inProgress st ht])

/-- Nothing is settled on a progress report: a disposition carrying `received`, or no state, is never
    answered with a settling one. -/
theorem no_echo_in_progress (s : St) (h : WF s) (hlen : s.byId.length ≤ 2147483648) (first last : Nat)
    (hf : first < 4294967296) (st : DS) (hp : st.inProgress = true) :
    echoesOf (step s (.disp first last false st)).2 = [] := by
  have hnone : (knownIds s.byId first last).filter (wantsEcho st s) = [] := by
    apply List.filter_eq_nil_iff.mpr
    intro id _
    unfold wantsEcho
    cases lookup s.byId id <;> simp [hp]
  rw [echoesOf_disp s h first last st, hnone]
  rfl

/-- a chunking of the echoed ids that cuts at the break points between runs and has no slice after the
    last break: the last run is never emitted.  The echo loop in link/mod.rs needs that final slice. -/
def oldChunks (ids : List Nat) : List (List Nat) :=
  let breaks := (List.range (ids.length - 1)).filter (fun i => ids.getD (i + 1) 0 ≠ ids.getD i 0 + 1) |>.map (· + 1)
  (breaks.foldl (fun (acc : List (List Nat) × Nat) b => (acc.1 ++ [(ids.drop acc.2).take (b - acc.2)], b)) ([], 0)).1

theorem old_chunking_drops_last_run : oldChunks [5] = [] ∧ oldChunks [5, 6, 9] = [[5, 6]] := by
  decide

-- non-vacuity: a reachable state with two links, ids across the wrap, and a disposition that
-- completes one send, echoes it and leaves the other waiting
example :
    (run (init [true, false])
      [.send 0 0 4294967295 false, .send 1 0 0 false, .send 0 1 1 false, .disp 4294967295 0 false .released]).2 =
      [.resolved 0 0 .released, .resolved 1 0 .released, .echo 4294967295 4294967295 .released] := by
  decide +kernel

/-! ## receiver side -/

/-- the mode a delivery is under is fixed when it arrives: nothing but the arrival of a delivery with
    the same tag changes it -/
theorem mode_stable (s : RSt) (tag : Nat) (op : ROp) (hne : ∀ id pre m, op ≠ .arrive tag id pre m) :
    modeOf (rstep s op).1 tag = modeOf s tag := by
  fun_cases rstep s op with
  | case2 t id pre m =>
    -- the one step that writes `modes`: an arrival that is kept, here of another tag
    have : (t == tag) = false := beq_false_of_ne fun h => hne id pre m (by rw [h])
    simp only [modeOf, List.find?_cons, this]
  | _ => rfl

/-- a delivery's mode is the transfer's own if it names one, else the link's -/
theorem mode_at_arrival (s : RSt) (tag id : Nat) (m : Option Bool) :
    modeOf (rstep s (.arrive tag id false m)).1 tag = m.getD s.second := by
  simp only [rstep, Bool.false_eq_true, if_false, modeOf, List.find?_cons, beq_self_eq_true]

/-- A delivery under mode second is kept.  Whatever happens — further arrivals, disposals by the
    application (which only report the outcome; disposals of *other* deliveries under mode first
    included), unsettled dispositions, settled dispositions for other deliveries — the delivery stays in
    the receiver's unsettled map until a settled disposition from the sender names it. -/
theorem second_keeps_until_settled (s : RSt) (tag : Nat) (h2 : modeOf s tag = true) (hin : tag ∈ s.unsettled) (op : ROp)
    (hno : ∀ f l, op = .inDisp f l true → ∀ it ∈ s.tracked, inSerialRange f l it.1 = true → it.2 ≠ tag) :
    tag ∈ (rstep s op).1.unsettled := by
  fun_cases rstep s op with
  | case2 => exact List.mem_append_left _ hin
  | case4 t id st _ hm =>
    -- a disposal that settles is under mode first: of another delivery
    exact List.mem_filter.mpr ⟨hin, by simpa using fun h : tag = t => hm (h ▸ h2)⟩
  | case6 f l =>
    -- a settled disposition from the sender
    simp only [List.mem_filter]
    refine ⟨hin, ?_⟩
    simp only [Bool.not_eq_true', List.any_eq_false, beq_iff_eq]
    intro it hit
    obtain ⟨ht, hr⟩ := List.mem_filter.mp hit
    exact hno f l rfl it ht hr
  | _ => exact hin

/-- The sender's settling disposition ends it, ranges in serial order included. -/
theorem sender_settlement_forgets (s : RSt) (tag id first last : Nat) (ht : (id, tag) ∈ s.tracked)
    (hr : inSerialRange first last id = true) :
    tag ∉ (rstep s (.inDisp first last true)).1.unsettled := by
  simp only [rstep, if_true, List.mem_filter, not_and, Bool.not_eq_true', Bool.not_eq_false]
  intro _
  simp only [List.any_eq_true, List.mem_filter, beq_iff_eq]
  exact ⟨(id, tag), ⟨ht, hr⟩, rfl⟩

/-- Under mode first the disposal settles: the disposition is sent settled and the delivery is
    forgotten at once — decided per delivery, by the mode it arrived under. -/
theorem first_settles_at_disposal (s : RSt) (tag id : Nat) (h1 : modeOf s tag = false) (st : DS) (hin : tag ∈ s.unsettled) :
    (rstep s (.dispose tag id st)).2 = [.disposition id id true st] ∧
    tag ∉ (rstep s (.dispose tag id st)).1.unsettled := by
  simp only [rstep, List.contains_iff_mem, hin, h1, if_true, Bool.false_eq_true, if_false, true_and]
  exact fun h => by simpa using (List.mem_filter.mp h).2

/-- Under mode second the outcome is reported unsettled — even when the deliveries disposed
    of around it are under mode first. -/
theorem second_reports_unsettled (s : RSt) (tag id : Nat) (h2 : modeOf s tag = true) (st : DS) (hin : tag ∈ s.unsettled) :
    rstep s (.dispose tag id st) = (s, [.disposition id id false st]) := by
  simp only [rstep, List.contains_iff_mem, hin, h2, if_true]

/-- a delivery that is no longer (or was never) unsettled is not reported again -/
theorem settled_not_reported_again (s : RSt) (tag id : Nat) (st : DS) (hout : tag ∉ s.unsettled) :
    rstep s (.dispose tag id st) = (s, []) := by
  simp only [rstep, List.contains_iff_mem, hout, if_false]

/-- the settled flag of every disposition the receiver writes is the negation of the mode of the
    delivery it names -/
theorem settled_flag_is_the_mode (s : RSt) (tag id : Nat) (st : DS) :
    ∀ o ∈ (rstep s (.dispose tag id st)).2, o = .disposition id id (!(modeOf s tag)) st := by
  rw [rstep]
  split
  · cases modeOf s tag
    · exact fun _ => List.mem_singleton.mp
    · exact fun _ => List.mem_singleton.mp
  · exact fun _ ho => nomatch ho

-- non-vacuity: a link in mode second, a delivery that names mode first between two that do not
example :
    (let r := rrun (rinit true) [.arrive 0 10 false none, .arrive 1 11 false (some false), .arrive 2 12 false none,
      .dispose 0 10 .accepted, .dispose 1 11 .accepted, .dispose 2 12 .accepted]
     (r.1.unsettled, r.2)) =
    ([0, 2], [.disposition 10 10 false .accepted, .disposition 11 11 true .accepted, .disposition 12 12 false .accepted]) := by
  decide +kernel

-- non-vacuity: mode second, two deliveries across the wrap, one settled by the sender
example :
    (rrun (rinit true) [.arrive 0 4294967295 false, .arrive 1 0 false, .dispose 0 4294967295 .accepted,
      .dispose 1 0 .rejected, .inDisp 4294967295 4294967295 true]).1.unsettled = [1] := by
  decide +kernel

end Amqp.Settle
