/-
  C04 — Decoding untrusted bytes is total and resource-bounded.

  What is proved here (see DESIGN.md §7 C04):
  * on EVERY byte string (`decode_bounded`, `fuel_never_runs_out`): what the decoder returns is
    nested at most `MAX_NESTING_DEPTH` deep, what it leaves is a suffix of its input, its size is
    bounded by 17 × (input length + 65536), and the model's recursion counter never runs out;
  * the decoder model is a total function by construction (structural recursion
    on fuel; `decode` supplies fuel from the input length): it returns a value
    or an error for every byte string — there is no other outcome in the model,
    and the guards whose absence made the implementation panic / over-allocate
    are *generated obligations* checked against the source on every run;
  * re-decode stability for every well-formed value: the encoding of what was
    decoded decodes to the same value (`redecode_stable`);
  * the decoder's limits are the ones the theorems of C03 assume.
  The remaining clauses (no panic, allocation ≤ c·len + c₀, bounded stack) are
  established on the implementation by the search (exhaustive short inputs,
  structure-aware corruptions, measured allocation, deep nesting), and the
  model is tied to the implementation on all of those inputs.
-/
import Theorems.C03
import Theorems.Lemmas.CodecDec
-- imported so that `lazy_is_a_prefix`, registered for C04, is reachable from this module
import Theorems.Lazy

namespace Amqp.Codec
open Amqp.Gen.Codes

/-- generated obligations: every size-field adjustment is checked, every compound
    accessor passes the depth guard, both array arms pass the zero-width guard, odd
    map counts are rejected, no counter is decremented unchecked, and the reader
    does not allocate a length field's worth of memory up front -/
theorem decoder_guards_present :
    n_checked_offset_sub = 8 ∧ n_unchecked_offset_sub = 0 ∧ n_enter_compound_calls = 6 ∧
    n_zero_width_guard_calls = 2 ∧ map_rejects_odd_count = true ∧ n_unchecked_count_decrement = 0 ∧
    read_bytes_allocates_length_field = false := by decide

/-- the constructors the model charges against the budget of body-less array elements are the ones the
    source charges: null, true, false, uint0, ulong0, list0 — and no constructor that has a body, so that
    arrays of integers, timestamps, uuids … are bounded by their bytes alone -/
theorem source_zero_width_codes : ∀ c : Nat, zeroWidth c = zero_width_codes.contains c := by
  simp [zeroWidth, zero_width_codes, Bool.or_assoc]

/-- the limits used by the model are the source's -/
theorem limits : MAX_NESTING_DEPTH = 128 ∧ MAX_ARRAY_COUNT = 65536 := by decide

/-- for well-formed values: decode ∘ encode ∘ decode = decode -/
theorem redecode_stable (bs : Bytes) (v : Value) (rest : Bytes) (_hdec : decode bs = .ok (v, rest))
    (hw : WF v) (hn : nest v ≤ MAX_NESTING_DEPTH) (e : Bytes) (he : encode v = some e) :
    decode e = .ok (v, []) :=
  decode_encode v hw hn e he

/-- the map visitor never makes a value deeper than its entries -/
theorem map_dedup_nest (vs : List Value) :
    nestAll (flattenPairs (insertAll [] vs)) ≤ nestAll vs :=
  nestAll_insertAll vs [] (Nat.zero_le _) (Nat.le_refl _)

/-- On every byte string: whatever `from_slice::<Value>` returns for whatever input: what it leaves is a
    suffix of the input (it consumed a prefix, read nothing else, invented nothing); the value is nested no
    deeper than the decoder's limit; and the size of the value (`mass`: one unit per node plus every payload
    byte) is at most 17 × (bytes consumed + the fixed budget of 65536 body-less array elements) — memory in
    proportion to the input, with the constant the decoder's `zero_width_budget` allows. -/
theorem decode_bounded (bs : Bytes) (v : Value) (rest : Bytes) (h : decode bs = .ok (v, rest)) :
    IsSuffix rest bs ∧ nest v ≤ MAX_NESTING_DEPTH ∧
    mass v + 17 * rest.length ≤ 17 * (bs.length + MAX_ARRAY_COUNT) := by
  obtain ⟨s, hx, rfl⟩ := decode_ok h
  have i := ((dec_sat _).1 _ _).ok hx
  have m := i.mass
  simp only [slack_mk_none] at m
  exact ⟨i.suffix, i.nest, by omega⟩

/-- the same bound for every intermediate state of the decoder, not only the top-level call: any
    single value decoded at any point, with any element constructor in force -/
theorem dec_bounded (fuel depth : Nat) (st : DSt) (v : Value) (s : DSt) (h : dec fuel depth st = .ok (v, s)) :
    StepInv depth st v s := ((dec_sat fuel).1 depth st).ok h

/-- On every byte string.  The model bounds its recursion by a counter; the implementation has none.
    The counter never decides anything: `decode` never returns the model's own out-of-fuel error,
    because every recursive descent passes the depth guard (at most `MAX_NESTING_DEPTH` levels) and
    every sequence passes a count guard (at most `MAX_ARRAY_COUNT` entries per level; 255 for the
    one-byte headers).  So "returns a value or an error" is a statement about the decoding algorithm,
    not an artefact of cutting the recursion off. -/
theorem fuel_never_runs_out (bs : Bytes) : decode bs ≠ .error .fuel :=
  fun h => ((dec_sat _).1 _ _).nofuel (need_le_decodeFuel _) (decode_error h)

/-- the decoder's progress: a decoding step that is not paid for by the body-less budget consumes at
    least one byte per node of the value it returns — there is no way to make it produce values
    without feeding it input -/
theorem nodes_paid_for (bs : Bytes) (v : Value) (rest : Bytes) (h : decode bs = .ok (v, rest)) :
    mass v ≤ 17 * (bs.length - rest.length + MAX_ARRAY_COUNT) := by
  obtain ⟨hs, _, hm⟩ := decode_bounded bs v rest h
  have := hs.len
  omega

/-- non-vacuity: a nested input (a list of a map, an array of three ubytes and a described empty list,
    followed by one more byte) decodes, and meets every clause: nesting 3, size 27 ≤ 17 × (22 + 65536) -/
example : (match decode [0xc0, 0x15, 0x03, 0xc1, 0x05, 0x02, 0xa3, 0x01, 0x61, 0x52, 0x07, 0xe0, 0x05, 0x03, 0x50,
      0x01, 0x02, 0x03, 0x00, 0x53, 0x24, 0x45, 0x99] with
    | .ok (v, rest) => some (nest v, mass v, rest)
    | .error _ => none) = some (3, 27, [0x99]) := by decide +kernel

def errOf {α : Type} : Res α → Option DErr
  | .ok _ => none
  | .error e => some e

/-! hostile inputs of the corpus, decided by kernel evaluation of the model
    (the same inputs are run on the implementation on every check) -/

example : errOf (decode [0xc0, 0x00, 0x00]) = some .badLen := by decide +kernel
example : errOf (decode [0xc1, 0x02, 0x01, 0x40]) = some .badLen := by decide +kernel
example : errOf (decode [0xe0, 0x01, 0x01, 0x40]) = some .badLen := by decide +kernel
example : errOf (decode [0xb0, 0xff, 0xff, 0xff, 0xff]) = some .eof := by decide +kernel

end Amqp.Codec
