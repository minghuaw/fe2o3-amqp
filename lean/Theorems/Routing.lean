/-
  C11 — routing: every incoming link frame reaches the endpoint that the peer's handle designates,
  and no two handles of the peer designate the same endpoint.
-/
import Amqp.Routing
import Theorems.Lemmas.List

namespace Amqp.Routing

theorem get_del_self {β : Type} (k : Nat) (m : List (Nat × β)) : get k (del k m) = none :=
  congrArg (Option.map _) (List.find?_key_eq_none.mpr fun _ hx => bne_iff_ne.mp (List.mem_filter.mp hx).2)

theorem get_del_ne {β : Type} {k k' : Nat} (h : k' ≠ k) (m : List (Nat × β)) : get k' (del k m) = get k' m :=
  congrArg (Option.map _) (List.find?_key_filter_ne (·.1) h m)

/-- `del` and `put` in the form in which `Desig.clear` and `Desig.set` are written -/
theorem get_del {β : Type} (k k' : Nat) (m : List (Nat × β)) :
    get k' (del k m) = if k' = k then none else get k' m := by
  by_cases h : k' = k
  · rw [if_pos h, h, get_del_self]
  · rw [if_neg h, get_del_ne h]

theorem get_put {β : Type} (k k' : Nat) (v : β) (m : List (Nat × β)) :
    get k' (put k v m) = if k' = k then some v else get k' m := by
  by_cases h : k' = k
  · rw [if_pos h, h]
    exact congrArg (Option.map _) (List.find?_cons_of_pos (l := del k m) (beq_self_eq_true k))
  · rw [if_neg h, ← get_del_ne h m]
    exact congrArg (Option.map _) (List.find?_cons_of_neg (l := del k m) fun e => h (beq_iff_eq.mp e).symm)

theorem get_del_some {β : Type} {k k' : Nat} {s : β} {m : List (Nat × β)} (h : get k' (del k m) = some s) :
    k' ≠ k ∧ get k' m = some s := by
  rw [get_del] at h
  split at h
  · cases h
  · exact ⟨‹_›, h⟩

theorem get_put_some {β : Type} {k k' : Nat} {v s : β} {m : List (Nat × β)} (h : get k' (put k v m) = some s) :
    (k' = k ∧ v = s) ∨ (k' ≠ k ∧ get k' m = some s) := by
  rw [get_put] at h
  split at h
  · exact .inl ⟨‹_›, Option.some.inj h⟩
  · exact .inr ⟨‹_›, h⟩

theorem mem_putName {n name : String} {v w : Option Relay} {m : List (String × Option Relay)} :
    (n, v) ∈ putName name w m ↔ (n = name ∧ v = w) ∨ ((n, v) ∈ m ∧ n ≠ name) := by
  simp only [putName, List.mem_cons, Prod.mk.injEq, List.mem_filter, bne_iff_ne, ne_eq]

/-- what the table designates -/
def abs (t : Tab) : Desig := fun h => (get h t.byIn).map (·.lid)

/-- the specification of one step: a frame on handle `h` goes to the endpoint `h` designates, or is
    refused as unattached -/
def FrameOk (d : Desig) : Op → Out → Prop
  | .inFrame h, o => o = (match d h with | some l => .to l | none => .unattached)
  | .inDetach h, o => o = (match d h with | some l => .to l | none => .unattached)
  | _, _ => True

def Faithful : Desig → List Op → List Out → Prop
  | _, [], [] => True
  | d, op :: ops, o :: os => FrameOk d op o ∧ Faithful (desigStep d op o) ops os
  | _, _, _ => False

/-- one step of the tables is one step of the specification; only an accepted attach and a detach touch
    the table of the peer's handles -/
theorem step_sim (t : Tab) (op : Op) :
    FrameOk (abs t) op (step t op).2 ∧ abs (step t op).1 = desigStep (abs t) op (step t op).2 := by
  cases op with
  | alloc name => simp only [step]; split <;> exact ⟨trivial, rfl⟩
  | dealloc k => simp only [step]; split <;> exact ⟨trivial, rfl⟩
  | inAttach name h =>
    simp only [step]
    split
    · refine ⟨trivial, ?_⟩
      funext x; simp only [abs, desigStep, Desig.set, get_put]; split <;> rfl
    · exact ⟨trivial, rfl⟩
    · exact ⟨trivial, rfl⟩
  | inFrame h =>
    simp only [FrameOk, step, abs]
    cases get h t.byIn <;> exact ⟨rfl, rfl⟩
  | inDetach h =>
    simp only [FrameOk, step, abs]
    cases get h t.byIn with
    | none => exact ⟨rfl, rfl⟩
    | some r =>
      refine ⟨rfl, ?_⟩
      funext x; simp only [abs, desigStep, Desig.clear, get_del]; split <;> rfl

/-- For every history of local attaches and detaches and of frames of a peer that picks its handles as it
    likes (sparse, large, reused after its detach, re-used while still attached): a link frame goes to the
    endpoint of the last attach the session accepted on its handle and the peer has not detached since,
    and is refused as unattached when there is none. -/
theorem routes_as_designated (ops : List Op) : ∀ (t : Tab), Faithful (abs t) ops (run t ops).2 := by
  induction ops with
  | nil => intro t; trivial
  | cons op ops ih =>
    intro t
    obtain ⟨h1, h2⟩ := step_sim t op
    exact ⟨h1, h2 ▸ ih _⟩

def inLids (t : Tab) : List Nat := t.byIn.map (·.2.lid)

/-- every endpoint number is held once: the relays under the peer's handles and those still waiting under a
    name for the peer's attach carry pairwise different `lid`s, all below `next`; the slab plays no part -/
structure Inv (t : Tab) : Prop where
  nodup : (inLids t).Nodup
  waitingApart : ∀ n r, (n, some r) ∈ t.byName → r.lid ∉ inLids t
  waitingOnce : ∀ n1 r1 n2 r2, (n1, some r1) ∈ t.byName → (n2, some r2) ∈ t.byName → r1.lid = r2.lid → n1 = n2
  below : (∀ x ∈ inLids t, x < t.next) ∧ ∀ n r, (n, some r) ∈ t.byName → r.lid < t.next

theorem empty_inv : Inv Tab.empty :=
  ⟨by simp [inLids, Tab.empty], by simp [Tab.empty], by simp [Tab.empty], by simp [inLids, Tab.empty]⟩

theorem Inv.anti {t t' : Tab} (h : Inv t) (hin : (inLids t').Sublist (inLids t))
    (hw : ∀ n r, (n, some r) ∈ t'.byName → (n, some r) ∈ t.byName) (hn : t.next ≤ t'.next) : Inv t' :=
  ⟨h.nodup.sublist hin, fun n r hm hc => h.waitingApart n r (hw n r hm) (hin.subset hc),
   fun n1 r1 n2 r2 h1 h2 => h.waitingOnce n1 r1 n2 r2 (hw _ _ h1) (hw _ _ h2),
   fun x hx => Nat.lt_of_lt_of_le (h.below.1 x (hin.subset hx)) hn,
   fun n r hm => Nat.lt_of_lt_of_le (h.below.2 n r (hw n r hm)) hn⟩

theorem step_inv (t : Tab) (op : Op) (h : Inv t) : Inv (step t op).1 := by
  cases op with
  | alloc name =>
    simp only [step]
    split
    · exact h
    · -- the new endpoint number is `next`, above every number held so far
      obtain ⟨h1, h2, h3, h4a, h4b⟩ := h
      refine ⟨h1, fun n r hm hc => ?_, fun n1 r1 n2 r2 hm1 hm2 he => ?_, fun x hx => Nat.lt_succ_of_lt (h4a x hx),
        fun n r hm => ?_⟩
      · rcases mem_putName.mp hm with ⟨_, hr⟩ | ⟨hm, _⟩
        · cases hr; exact Nat.lt_irrefl _ (h4a _ hc)
        · exact h2 n r hm hc
      · rcases mem_putName.mp hm1 with ⟨e1, hr1⟩ | ⟨hm1, _⟩ <;> rcases mem_putName.mp hm2 with ⟨e2, hr2⟩ | ⟨hm2, _⟩
        · rw [e1, e2]
        · cases hr1; exact absurd (h4b n2 r2 hm2) (he ▸ Nat.lt_irrefl _)
        · cases hr2; exact absurd (h4b n1 r1 hm1) (he ▸ Nat.lt_irrefl _)
        · exact h3 n1 r1 n2 r2 hm1 hm2 he
      · rcases mem_putName.mp hm with ⟨_, hr⟩ | ⟨hm, _⟩
        · cases hr; exact Nat.lt_succ_self _
        · exact Nat.lt_succ_of_lt (h4b n r hm)
  | inAttach name hh =>
    simp only [step]
    split
    · next r hn =>
      -- the relay moves from the waiting names to the peer's handles
      have hmem : (name, some r) ∈ t.byName := List.mem_of_find?_fst hn
      have hsub : ((t.byIn.filter (·.1 != hh)).map (·.2.lid)).Sublist (inLids t) :=
        List.Sublist.map _ List.filter_sublist
      have hw : ∀ n r2, (n, some r2) ∈ putName name none t.byName → (n, some r2) ∈ t.byName ∧ n ≠ name :=
        fun n r2 hm => (mem_putName.mp hm).resolve_left fun e => nomatch e.2
      obtain ⟨h1, h2, h3, h4a, h4b⟩ := h
      refine ⟨List.nodup_cons.mpr ⟨fun hc => h2 _ _ hmem (hsub.subset hc), h1.sublist hsub⟩, fun n r2 hm hc => ?_,
        fun n1 r1 n2 r2 hm1 hm2 => h3 n1 r1 n2 r2 (hw _ _ hm1).1 (hw _ _ hm2).1, fun x hx => ?_,
        fun n r2 hm => h4b n r2 (hw _ _ hm).1⟩
      · rcases List.mem_cons.mp hc with he | hc
        · exact (hw _ _ hm).2 (h3 n r2 name r (hw _ _ hm).1 hmem he)
        · exact h2 n r2 (hw _ _ hm).1 (hsub.subset hc)
      · rcases List.mem_cons.mp hx with rfl | hx
        · exact h4b _ _ hmem
        · exact h4a x (hsub.subset hx)
    · exact h
    · exact h
  | inFrame hh => simp only [step]; split <;> exact h
  | inDetach hh =>
    simp only [step]
    split
    · exact h.anti (List.Sublist.map _ List.filter_sublist) (fun _ _ hm => hm) (Nat.le_refl _)
    · exact h
  | dealloc k =>
    simp only [step]
    split
    · exact h.anti (List.Sublist.refl _) (fun _ _ hm => (List.mem_filter.mp hm).1) (Nat.le_refl _)
    · exact h

theorem run_inv (ops : List Op) : ∀ (t : Tab), Inv t → Inv (run t ops).1 := by
  induction ops with
  | nil => intro t h; exact h
  | cons op ops ih => intro t h; simp only [run]; exact ih _ (step_inv t op h)

/-- After any history, two different handles of the peer never lead to the same endpoint — also when the
    output handle of a detached link has gone to a new link while the old entry still waits for the peer's
    detach. -/
theorem one_handle_per_endpoint (ops : List Op) (h1 h2 : Nat) (r1 r2 : Relay)
    (g1 : get h1 (run Tab.empty ops).1.byIn = some r1) (g2 : get h2 (run Tab.empty ops).1.byIn = some r2)
    (he : r1.lid = r2.lid) : h1 = h2 :=
  congrArg Prod.fst ((run_inv ops Tab.empty empty_inv).nodup.map_inj (List.mem_of_find?_fst g1) (List.mem_of_find?_fst g2) he)

/-- generated obligation: the table operations the model mirrors are in session/mod.rs, in the model's
    order (a `get` for the `remove`, a dropped `take`, a lookup after the insert make it false) -/
theorem source_routing_shape : sourceShape = true := by decide

/-- two links; the first is detached locally and its output handle 0 goes to a third link while the
    peer's handle 7 still leads to the first; frames on 7 reach endpoint 0, on 9 endpoint 2 -/
example : (run Tab.empty [.alloc "a", .alloc "b", .inAttach "a" 7, .inAttach "b" 4294967295, .dealloc 0, .alloc "c",
    .inAttach "c" 9, .inFrame 7, .inFrame 9, .inFrame 4294967295, .inDetach 7, .inFrame 7, .inAttach "b" 3]).2 =
    [.allocated 0 0, .allocated 1 1, .to 0, .to 1, .done, .allocated 2 0, .to 2, .to 0, .to 2, .to 1, .to 0,
     .unattached, .handleInUse] := by decide

end Amqp.Routing
