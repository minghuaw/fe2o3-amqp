/-
  C06 — every frame written for a transfer decodes to the performative written and exactly its piece
  of the payload; every other frame to its performative; the frame without a body to a heartbeat.
-/
import Amqp.FrameBody
import Theorems.Typed

namespace Amqp.FrameBody
open Amqp.Codec Amqp.Typed Amqp.Frame
open Amqp.Gen.FrameHeader

theorem source_payload_of_transfer_only : payloadOfTransferOnly = true := by decide

theorem decodeAmqp_header (c1 c0 : Nat) (rest : List Nat) :
    Amqp.FrameHeader.decodeAmqp (2 :: 0 :: c1 :: c0 :: rest) = .header (c1 * 256 + c0) rest := by
  simp [Amqp.FrameHeader.decodeAmqp, Amqp.FrameHeader.readHeader, amqp_decode.cond_if_0, amqp_decode.cond_if_1,
    FRAME_TYPE_AMQP]

/-- the header step on a frame that begins with `write_header(channel)` -/
theorem header_step (ch : Nat) (hch : ch < 65536) (body : List UInt8) :
    Amqp.FrameHeader.decodeAmqp ((header ch ++ body).map UInt8.toNat) =
      .header ch (body.map UInt8.toNat) := by
  have h : (UInt8.ofNat (ch / 256 % 256)).toNat * 256 + (UInt8.ofNat (ch % 256)).toNat = ch := by
    simp only [UInt8.toNat_ofNat', Nat.reducePow, Nat.mod_mod]
    rw [Nat.mod_eq_of_lt (Nat.div_lt_of_lt_mul (show ch < 256 * 256 from hch)), Nat.div_add_mod']
  exact (decodeAmqp_header _ _ _).trans (by rw [h]; rfl)

theorem decodeTyped_nil (env : List Schema) (ty : FTy) : ∃ err, decodeTyped env ty [] = .error err := by
  unfold decodeTyped
  have h : (match decode [] with | .ok _ => false | .error _ => true) = true := by decide +kernel
  cases hd : decode [] with
  | ok x => rw [hd] at h; cases h
  | error err => exact ⟨err, rfl⟩

theorem decodeFrame_perf {env : List Schema} (ch : Nat) (hch : ch < 65536) (body rest : List UInt8) (tv : TV)
    (hd : decodeTyped env perfTy body = .ok (tv, rest)) :
    decodeFrame env (header ch ++ body) =
      .frame ch (if isTransfer tv then .transfer tv rest else .other tv) := by
  have hemp : body.isEmpty = false := by
    cases body with
    | nil => obtain ⟨err, herr⟩ := decodeTyped_nil env perfTy; rw [herr] at hd; cases hd
    | cons _ _ => rfl
  have hdrop : (header ch ++ body).drop 4 = body := by simp [header]
  unfold decodeFrame decodeFrameWith
  rw [header_step ch hch, source_payload_of_transfer_only]
  simp only [hdrop, hemp, amqp_decode.cond_if_2, Bool.false_eq_true, if_false, hd, if_true]
  split <;> rfl

/-- C06: Whatever the transfer performative holds and whatever piece of the payload follows it —
    empty, one byte, bytes that look like a performative themselves — the frame
    `write_header(channel) ++ performative ++ piece` decodes to that channel, exactly that
    performative and exactly that piece: the payload is what follows the performative, nothing
    of it is read as part of the performative and nothing of the performative is left in it. -/
theorem transfer_frame_decodes (ch : Nat) (hch : ch < 65536) (fs : List TV) (e piece : List UInt8)
    (hok : TVOk env perfTy (.comp transferName fs))
    (hn : nest (toTree env (.comp transferName fs)) ≤ Amqp.Gen.Codes.MAX_NESTING_DEPTH)
    (he : encodeTyped env (.comp transferName fs) = some e) :
    decodeFrame env (header ch ++ (e ++ piece)) = .frame ch (.transfer (.comp transferName fs) piece) := by
  rw [decodeFrame_perf ch hch _ _ _ (typed_roundtrip_source perfTy _ hok hn e piece he)]
  simp [isTransfer]

/-- C06 / C20: The same when the performative is written as a peer may write it — descriptor by name
    or code, trailing nulls kept or not, defaults written out, any width variant at every node
    (`typed_variants_accepted`): the payload is still exactly what follows the performative.  (A
    decoder that found the payload by re-encoding the performative and skipping that many bytes is
    wrong for every such encoding whose length differs from ours.) -/
theorem transfer_frame_decodes_any_encoding (ch : Nat) (hch : ch < 65536) (fs : List TV) (tch : TCh)
    (bch : Amqp.CodecSpec.Ch) (e piece : List UInt8)
    (hok : TVOk env perfTy (.comp transferName fs))
    (hn : nest (toTreeV env tch (.comp transferName fs)) ≤ Amqp.Gen.Codes.MAX_NESTING_DEPTH)
    (he : Amqp.CodecSpec.sEnc bch (toTreeV env tch (.comp transferName fs)) = some e) :
    decodeFrame env (header ch ++ (e ++ piece)) = .frame ch (.transfer (.comp transferName fs) piece) := by
  rw [decodeFrame_perf ch hch _ _ _ (typed_variants_accepted_source perfTy _ tch hok hn bch e piece he)]
  simp [isTransfer]

/-- C06: A frame that carries any other performative decodes to that channel and exactly that performative. -/
theorem other_frame_decodes (ch : Nat) (hch : ch < 65536) (n : String) (hn' : (n == transferName) = false)
    (fs : List TV) (e : List UInt8)
    (hok : TVOk env perfTy (.comp n fs))
    (hn : nest (toTree env (.comp n fs)) ≤ Amqp.Gen.Codes.MAX_NESTING_DEPTH)
    (he : encodeTyped env (.comp n fs) = some e) :
    decodeFrame env (header ch ++ e) = .frame ch (.other (.comp n fs)) := by
  have := typed_roundtrip_source perfTy _ hok hn e [] he
  rw [List.append_nil] at this
  rw [decodeFrame_perf ch hch _ _ _ this]
  simp [isTransfer, hn']

/-- C06 / C17: The frame that is its header alone (eight octets on the wire, four here: the length
    prefix is taken off before) is the empty frame. -/
theorem heartbeat_decodes (ch : Nat) (hch : ch < 65536) :
    decodeFrame env (header ch) = .frame ch .empty := by
  have := header_step ch hch []
  rw [List.append_nil] at this
  unfold decodeFrame decodeFrameWith
  rw [this]
  simp [header, amqp_decode.cond_if_2]

/-- non-vacuity: the sample transfer of `Theorems/Typed.lean` (a rejected state with an error inside) is a
    performative the theorems speak about -/
example : TVOk env perfTy sampleTransfer := sample_ok.comp_mono (by decide +kernel)

def payloadOf : Out → Option (List UInt8)
  | .frame _ (.transfer _ p) => some p
  | _ => none

/-- a decoder whose transfer arm did not keep what follows the performative would lose the payload -/
example : payloadOf (decodeFrameWith false env (header 1 ++ ([0x00, 0x53, 0x14, 0xc0, 0x03, 0x01, 0x43] ++ [1, 2, 3]))) = some [] := by
  rw [env_eq]; decide +kernel

example : payloadOf (decodeFrame env (header 1 ++ ([0x00, 0x53, 0x14, 0xc0, 0x03, 0x01, 0x43] ++ [1, 2, 3]))) = some [1, 2, 3] := by
  rw [env_eq]; decide +kernel

end Amqp.FrameBody
