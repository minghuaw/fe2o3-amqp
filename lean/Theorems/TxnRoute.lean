/-
  C10 / C18 — the frames of a transactional post are withheld together, in order, whether its continuation
  frames leave the delivery-tag and the state out or repeat them, and an aborted post leaves nothing behind on
  its link.
-/
import Amqp.TxnRoute

namespace Amqp.TxnRoute

theorem source_route_shape : routeShape = true := by decide

/-- a continuation frame of the post with delivery-tag `tg` under transaction `id` on link `h`: the
    delivery-tag left out or repeated, the state left out or repeated -/
def Continues (h id tg : Nat) (f : TFrame) : Prop :=
  f.handle = h ∧ (f.tag = none ∨ f.tag = some tg) ∧ (f.txn = none ∨ f.txn = some id)

theorem decide_continuation (t : Table) (h id tg : Nat) (f : TFrame) (ht : t h = some (id, some tg))
    (hc : Continues h id tg f) : decide? t f = some id := by
  obtain ⟨h1, h2, h3⟩ := hc
  rcases h3 with h3 | h3
  · rcases h2 with h2 | h2 <;> simp [decide?, h3, h1, ht, h2]
  · simp [decide?, h3]

theorem route_withheld (t : Table) (f : TFrame) (id : Nat) (hd : decide? t f = some id) :
    (route t f).2 = .withheld id ∧
    (route t f).1 f.handle = (if f.more = true ∧ f.aborted = false then
      some (id, match f.tag, t f.handle with
        | some x, _ => some x
        | none, some (_, tg) => tg
        | none, none => none) else none) := by
  unfold route
  rw [hd, source_route_shape]
  refine ⟨rfl, ?_⟩
  simp only [Table.set, if_true]
  cases f.more <;> cases f.aborted <;> rfl

/-- While a post under `id` is under way on link `h`, a continuation frame — whichever of tag and state it
    repeats — is withheld under `id`, and the link stays in the middle of that post exactly if the frame
    says `more` and does not abort. -/
theorem continuation_withheld (t : Table) (h id tg : Nat) (f : TFrame) (ht : t h = some (id, some tg))
    (hc : Continues h id tg f) :
    (route t f).2 = .withheld id ∧
    (route t f).1 h = (if f.more = true ∧ f.aborted = false then some (id, some tg) else none) := by
  obtain ⟨r1, r2⟩ := route_withheld t f id (decide_continuation t h id tg f ht hc)
  obtain ⟨rfl, h2, _⟩ := hc
  refine ⟨r1, r2.trans ?_⟩
  rcases h2 with h2 | h2 <;> rw [h2, ht]

/-- A transfer that names a transaction is withheld under it; its delivery-tag is
    kept with the entry. -/
theorem first_frame_withheld (t : Table) (id tg : Nat) (f : TFrame) (hf : f.txn = some id) (hg : f.tag = some tg) :
    (route t f).2 = .withheld id ∧
    (route t f).1 f.handle = (if f.more = true ∧ f.aborted = false then some (id, some tg) else none) := by
  have hd : decide? t f = some id := by rw [decide?, hf]
  obtain ⟨r1, r2⟩ := route_withheld t f id hd
  exact ⟨r1, r2.trans (by rw [hg])⟩

/-- C10. A withheld transfer that aborts its delivery leaves the link with no post
    under way, whatever its `more` flag says. -/
theorem abort_ends_the_post (t : Table) (f : TFrame) (id : Nat) (hd : decide? t f = some id) (ha : f.aborted = true) :
    (route t f).1 f.handle = none := by
  rw [(route_withheld t f id hd).2, if_neg (fun h => by rw [ha] at h; exact nomatch h.2)]

/-- why the condition is `more && !aborted`: were it `more` alone, an abort frame that says `more` would leave
    the post under way, and the next plain delivery's continuation frame would be taken for the transaction's -/
example :
    (let t : Table := Table.set (fun _ => none) 0 (some (7, some 1))     -- what `more` alone leaves behind
     decide? t ⟨0, none, none, false, false, 2⟩) = some 7 := by decide

/-- why a continuation may repeat the tag: were a continuation known by the absence of a delivery-tag alone,
    a continuation frame that repeats the tag and leaves the state out would go to the link on its own -/
example : (route (Table.set (fun _ => none) 0 (some (7, some 1))) ⟨0, none, some 1, false, false, 2⟩).2 = .withheld 7 ∧
    (if (some 1 : Option Nat) = none then some 7 else (none : Option Nat)) = none := by decide

theorem other_links_untouched (t : Table) (f : TFrame) (h : Nat) (hne : f.handle ≠ h) : (route t f).1 h = t h := by
  unfold route
  cases decide? t f with
  | none => rfl
  | some id => simp [Table.set, Ne.symm hne]

/-- On a link with no post under way, the frames of a delivery that names no
    transaction go to the link at once and leave the table as it is. -/
theorem plain_delivery_direct (t : Table) (f : TFrame) (ht : t f.handle = none) (hf : f.txn = none) :
    route t f = (t, .direct) := by
  simp [route, decide?, hf, ht]

theorem source_counts_withheld : countsWithheld = true := by decide

/-- `step` read off `route`: the table and the verdict are `route`'s, a withheld frame goes to the end of its
    transaction's work, and every frame is counted -/
theorem step_eq (s : St) (f : TFrame) :
    step s f = ({ table := (route s.table f).1, counted := s.counted + 1,
                  work := fun k => if (route s.table f).2 = .withheld k then s.work k ++ [f] else s.work k },
      (route s.table f).2) := by
  unfold step
  cases route s.table f with
  | mk t r =>
    cases r with
    | direct => rfl
    | withheld id => simp only [source_counts_withheld, if_true, Route.withheld.injEq, @eq_comm _ id]

theorem run_cons (s : St) (f : TFrame) (fs : List TFrame) :
    run s (f :: fs) = ((run (step s f).1 fs).1, (step s f).2 :: (run (step s f).1 fs).2) := rfl

theorem step_plain (h : Nat) (s : St) (f : TFrame) (ht : s.table h = none) (hf : f.handle = h → f.txn = none) :
    (step s f).1.table h = none ∧ (f.handle = h → (step s f).2 = .direct) := by
  simp only [step_eq]
  by_cases hh : f.handle = h
  · rw [plain_delivery_direct s.table f (hh ▸ ht) (hf hh)]; exact ⟨ht, fun _ => rfl⟩
  · exact ⟨(other_links_untouched s.table f h hh).trans ht, fun e => absurd e hh⟩

theorem step_post (h id tg : Nat) (s : St) (f : TFrame) (ht : s.table h = some (id, some tg))
    (hf : f.handle = h → Continues h id tg f ∧ f.more = true ∧ f.aborted = false) :
    (step s f).1.table h = some (id, some tg) ∧ (f.handle = h → (step s f).2 = .withheld id) := by
  simp only [step_eq]
  by_cases hh : f.handle = h
  · obtain ⟨hc, hm, ha⟩ := hf hh
    obtain ⟨c1, c2⟩ := continuation_withheld s.table h id tg f ht hc
    exact ⟨by rw [c2, if_pos ⟨hm, ha⟩], fun _ => c1⟩
  · exact ⟨(other_links_untouched s.table f h hh).trans ht, fun e => absurd e hh⟩

/-- C10. After an aborted transactional delivery on link `h` — the abort frame with or without `more` — a
    plain delivery in any number of frames (tags repeated or not), frames of other links in between, goes to
    the link frame by frame: none of it is withheld. -/
theorem after_abort_next_is_plain (h : Nat) : ∀ (fs : List TFrame) (s : St),
    s.table h = none →
    (∀ f ∈ fs, f.handle = h → f.txn = none) →
    ∀ p ∈ fs.zip (run s fs).2, p.1.handle = h → p.2 = .direct
  | [], _, _, _ => fun _ hp => nomatch hp
  | f :: fs, s, ht, hall => by
    obtain ⟨h0, hall⟩ := List.forall_mem_cons.mp hall
    obtain ⟨ht', hd⟩ := step_plain h s f ht h0
    rw [run_cons, List.zip_cons_cons]
    exact List.forall_mem_cons.mpr ⟨hd, after_abort_next_is_plain h fs _ ht' hall⟩

/-- C10, C18. What a transaction has withheld is kept in arrival order: a withheld frame
    goes to the end of its transaction's work and no other transaction's work changes. -/
theorem withheld_in_order (s : St) (f : TFrame) (id : Nat) (hr : (step s f).2 = .withheld id) :
    (step s f).1.work id = s.work id ++ [f] ∧ ∀ k, k ≠ id → (step s f).1.work k = s.work k := by
  rw [step_eq] at hr ⊢
  exact ⟨if_pos hr, fun k hk => if_neg (by rw [hr]; exact fun e => hk (Route.withheld.inj e).symm)⟩

/-- C10, C18. From the first frame of a post under `id` on link `h` up to (not including) its last frame,
    with frames of other links in between in any number, the continuation frames repeating or omitting
    delivery-tag and state as they like: every frame of the post is withheld under `id` — none reaches the
    link before the discharge — and the link is still in the middle of the post (so that the last frame, by
    `continuation_withheld`, is withheld too and ends it). -/
theorem post_withheld_whole (h id tg : Nat) : ∀ (fs : List TFrame) (s : St),
    s.table h = some (id, some tg) →
    (∀ f ∈ fs, f.handle = h → Continues h id tg f ∧ f.more = true ∧ f.aborted = false) →
    (run s fs).1.table h = some (id, some tg) ∧ ∀ p ∈ fs.zip (run s fs).2, p.1.handle = h → p.2 = .withheld id
  | [], _, ht, _ => ⟨ht, fun _ hp => nomatch hp⟩
  | f :: fs, s, ht, hall => by
    obtain ⟨h0, hall⟩ := List.forall_mem_cons.mp hall
    obtain ⟨ht', hw⟩ := step_post h id tg s f ht h0
    obtain ⟨r1, r2⟩ := post_withheld_whole h id tg fs _ ht' hall
    rw [run_cons, List.zip_cons_cons]
    exact ⟨r1, List.forall_mem_cons.mpr ⟨hw, r2⟩⟩

/-- C10, C18. Under the hypotheses of `post_withheld_whole`: what the transaction holds for link `h`
    afterwards is what it held before followed by the frames of the post in the order they came, nothing
    of another link among them — so that the commit, which replays a transaction's work in order, hands
    the link the very frame sequence the peer wrote, to which `reasm_once` applies. -/
theorem post_work_in_order (h id tg : Nat) : ∀ (fs : List TFrame) (s : St),
    s.table h = some (id, some tg) →
    (∀ f ∈ fs, f.handle = h → Continues h id tg f ∧ f.more = true ∧ f.aborted = false) →
    ((run s fs).1.work id).filter (·.handle == h) =
      (s.work id).filter (·.handle == h) ++ fs.filter (·.handle == h)
  | [], _, _, _ => (List.append_nil _).symm
  | f :: fs, s, ht, hall => by
    obtain ⟨h0, hall⟩ := List.forall_mem_cons.mp hall
    obtain ⟨ht', hw⟩ := step_post h id tg s f ht h0
    rw [run_cons, post_work_in_order h id tg fs _ ht' hall]
    simp only [step_eq] at hw ⊢
    -- a frame of the link goes to the end of the work; a frame of another link, withheld or not, is filtered out
    by_cases hh : f.handle = h
    · simp [hw hh, hh]
    · split <;> simp [hh]

/-- C07. The session's counters are advanced once for every transfer that arrives, withheld under a
    transaction or handed on: what the session states as next-incoming-id in its flows reflects the
    transfer frames it has received. -/
theorem every_transfer_counted : ∀ (fs : List TFrame) (s : St), (run s fs).1.counted = s.counted + fs.length
  | [], s => rfl
  | f :: fs, s => by
    rw [run_cons, every_transfer_counted fs (step s f).1, step_eq, List.length_cons, Nat.add_assoc, Nat.add_comm 1]

/-! ### non-vacuity: a three-frame post (tag repeated on the second frame, state on the first only) whose last
    frame aborts with `more`, then a plain two-frame delivery -/
example : (run St.init [⟨0, some 7, some 1, true, false, 1⟩, ⟨0, none, some 1, true, false, 2⟩,
    ⟨0, none, none, true, true, 3⟩, ⟨0, none, some 2, true, false, 4⟩, ⟨0, none, some 2, false, false, 5⟩]).2 =
    [.withheld 7, .withheld 7, .withheld 7, .direct, .direct] := by decide

end Amqp.TxnRoute
