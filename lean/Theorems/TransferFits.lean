/-
  C06 — the hypotheses `Fits.p01` / `Fits.p3` of the frame-cutting theorems discharged from the typed
  model: writing a transfer with `more := true` never yields fewer bytes than with `more := false` (the
  derive macro elides a `false`, and the nulls no later field follows), so the encoder's second
  serialization cannot make room it did not measure, and the last frame's performative is never longer
  than the middle frames'.  The lemma holds for any Boolean field with default `false` of any composite.
-/
import Theorems.Typed
import Theorems.Lemmas.Frame

namespace Amqp.Typed
open Amqp.Codec Amqp.Gen.Codes

/-- entry by entry: the right one is null only where the left one is, and is written in at least
    as many bytes -/
inductive NoLonger : List Value → List Value → Prop
  | nil : NoLonger [] []
  | cons {v v' : Value} {vs vs' : List Value} :
      (isNull v' = true → isNull v = true) →
      (∀ a b, size .none v = some a → size .none v' = some b → a ≤ b) →
      NoLonger vs vs' → NoLonger (v :: vs) (v' :: vs')

theorem NoLonger.refl : ∀ (vs : List Value), NoLonger vs vs
  | [] => .nil
  | v :: vs => .cons id (fun a b ha hb => by rw [ha] at hb; cases hb; exact Nat.le_refl _) (NoLonger.refl vs)

theorem NoLonger.append {a a' b b' : List Value} (h1 : NoLonger a a') (h2 : NoLonger b b') :
    NoLonger (a ++ b) (a' ++ b') := by
  induction h1 with
  | nil => simpa using h2
  | cons hn hs _ ih => exact .cons hn hs ih

theorem dtn_noLonger {vs vs' : List Value} (h : NoLonger vs vs') :
    (dropTrailingNulls vs' = [] → dropTrailingNulls vs = []) ∧
    ∀ n n', sizeAll (dropTrailingNulls vs) = some n → sizeAll (dropTrailingNulls vs') = some n' → n ≤ n' := by
  induction h with
  | nil =>
    refine ⟨id, fun n n' h1 _ => ?_⟩
    cases h1
    exact Nat.zero_le _
  | @cons v v' vs vs' hnull hsize _ ih =>
    -- nothing written on the right: nothing is written on the left either
    have hnil : dropTrailingNulls vs' = [] ∧ isNull v' = true → dropTrailingNulls vs = [] ∧ isNull v = true :=
      fun hc => ⟨ih.1 hc.1, hnull hc.2⟩
    refine ⟨by simpa only [dtn_cons_nil] using hnil, fun n n' h1 h2 => ?_⟩
    rw [dtn_cons] at h1 h2
    split at h1
    · cases h1
      exact Nat.zero_le _
    · rename_i hc
      rw [if_neg (mt hnil hc)] at h2
      obtain ⟨a, m, ha, hm, rfl⟩ := sizeAll_cons _ _ _ h1
      obtain ⟨b, m', hb, hm', rfl⟩ := sizeAll_cons _ _ _ h2
      exact Nat.add_le_add (hsize a b ha hb) (ih.2 m m' hm hm')

theorem composite_noLonger (d : Value) {vs vs' : List Value} (h : NoLonger vs vs') (n n' : Nat)
    (h1 : size .none (.described d (.list (dropTrailingNulls vs))) = some n)
    (h2 : size .none (.described d (.list (dropTrailingNulls vs'))) = some n') : n ≤ n' := by
  simp only [size, bind, Option.bind_eq_some_iff, Option.some.injEq] at h1 h2
  obtain ⟨sd, hd, l, ⟨a, ha, hl⟩, rfl⟩ := h1
  obtain ⟨sd', hd', l', ⟨a', ha', hl'⟩, rfl⟩ := h2
  cases hd.symm.trans hd'
  have := sizeList_mono .none a a' l l' ((dtn_noLonger h).2 a a' ha ha') hl hl'
  omega

theorem slot_of_flag (f : Field) (hk : f.kind = .dflt) (hd : f.dflt = .bool false) (b : Bool) :
    slotOf f (.bool b) = if b then .bool true else .null := by
  unfold slotOf
  cases b <;> simp [hk, hd, Value.beq]

/-- a composite `n` of the environment whose field after `fpre` is a flag with default `false` -/
structure FlagAt (env : List Schema) (n : String) (s : Schema) (fpre : List Field) (f : Field)
    (fpost : List Field) : Prop where
  found : lookup env n = some s
  split : s.fields = fpre ++ f :: fpost
  kind : f.kind = .dflt
  dflt : f.dflt = .bool false
  ty : f.ty = .prim .bool

theorem tvOk_set_flag {env : List Schema} {n : String} {s : Schema} {fpre : List Field} {f : Field}
    {fpost : List Field} (hf : FlagAt env n s fpre f fpost) (ty : FTy) (pre post : List TV)
    (hlen : pre.length = fpre.length) (b b' : Bool)
    (h : TVOk env ty (.comp n (pre ++ .leaf (.bool b) :: post))) :
    TVOk env ty (.comp n (pre ++ .leaf (.bool b') :: post)) := by
  simp only [TVOk, hf.found, hf.split] at h ⊢
  obtain ⟨names, h1, h2, h3⟩ := h
  refine ⟨names, h1, h2, ?_⟩
  rw [fieldsOk_append env fpre pre (f :: fpost) _ hlen] at h3 ⊢
  refine ⟨h3.1, ?_⟩
  refine ⟨?_, h3.2.2⟩
  simp only [FieldOk1, hf.kind, TVOk, hf.ty]
  exact ⟨⟨_, rfl⟩, .bool, rfl, by simp [accepts], by simp [WF]⟩

/-- For every composite and every Boolean field of it whose default is `false`, and whatever the
    other fields hold: the value written with the flag set takes at least as many bytes as the value
    written with the flag as it was. -/
theorem flag_never_shortens {env : List Schema} (hE : EnvOk env) {n : String} {s : Schema}
    {fpre : List Field} {f : Field} {fpost : List Field} (hf : FlagAt env n s fpre f fpost)
    (ty : FTy) (pre post : List TV) (hlen : pre.length = fpre.length) (b : Bool)
    (h : TVOk env ty (.comp n (pre ++ .leaf (.bool b) :: post))) (e0 e1 : Bytes)
    (h0 : encodeTyped env (.comp n (pre ++ .leaf (.bool b) :: post)) = some e0)
    (h1 : encodeTyped env (.comp n (pre ++ .leaf (.bool true) :: post)) = some e1) :
    e0.length ≤ e1.length := by
  have h' := tvOk_set_flag hf ty pre post hlen b true h
  have s0 := typed_size_eq_length env hE ty _ h
  have s1 := typed_size_eq_length env hE ty _ h'
  rw [h0] at s0; rw [h1] at s1
  simp only [Option.map_some, sizeTyped, toTree, hf.found, hf.split] at s0 s1
  rw [slots_append env fpre pre (f :: fpost) _ hlen] at s0 s1
  simp only [slots, toTree, slot_of_flag f hf.kind hf.dflt] at s0 s1
  refine composite_noLonger _ ?_ _ _ s0 s1
  refine NoLonger.append (NoLonger.refl _) (.cons ?_ ?_ (NoLonger.refl _))
  · simp [isNull]
  · intro a c ha hc
    cases b <;> simp [size] at ha hc <;> omega

def flagAtB (env : List Schema) (n : String) (i : Nat) (wire : String) : Bool :=
  match lookup env n with
  | none => false
  | some s =>
    match s.fields[i]? with
    | none => false
    | some f => f.wire == wire && f.kind == .dflt && Value.beq f.dflt (.bool false) && f.ty == .prim .bool

theorem flagAtB_sound (env : List Schema) (n : String) (i : Nat) (wire : String)
    (h : flagAtB env n i wire = true) :
    ∃ s f, FlagAt env n s (s.fields.take i) f (s.fields.drop (i + 1)) ∧ (s.fields.take i).length = i := by
  revert h
  fun_cases flagAtB env n i wire with
  | case1 => exact nofun
  | case2 => exact nofun
  | case3 s hl f hf =>
    intro h
    simp only [Bool.and_eq_true, beq_iff_eq] at h
    obtain ⟨hi, rfl⟩ := List.getElem?_eq_some_iff.mp hf
    refine ⟨s, _, ⟨hl, ?_, h.1.1.2, beq_eq _ _ h.1.2, h.2⟩, List.length_take_of_le (Nat.le_of_lt hi)⟩
    rw [← List.drop_eq_getElem_cons hi, List.take_append_drop]

/-- generated obligation: `more` is the sixth field of the transfer performative, a Boolean whose
    default `false` is elided -/
theorem transfer_more : flagAtB env "amqp:transfer:list" 5 "more" = true := by rw [env_eq]; decide +kernel

open Amqp.Frame in
/-- the four encodings `FrameEncoder::encode_transfer` computes for a transfer whose fields before
    `more` are `pre` and after it `post`: as given, with `more := true`, and the same two for the
    continuation frames (`cpre` / `cpost`: delivery-id, delivery-tag, message-format, settled and
    rcv-settle-mode cleared) -/
def perfsOf (env : List Schema) (pre post cpre cpost : List TV) (origMore : Bool) : Option Perfs :=
  let t := fun (a b : List TV) (m : Bool) => encodeTyped env (.comp "amqp:transfer:list" (a ++ .leaf (.bool m) :: b))
  match t pre post origMore, t pre post true, t cpre cpost true, t cpre cpost origMore with
  | some p0, some p1, some p2, some p3 => some { p0 := p0, p1 := p1, p2 := p2, p3 := p3 }
  | _, _, _, _ => none

open Amqp.Frame in
/-- C06: For every transfer performative the library can write — any handle, delivery-id, tag, state, flags —
    two of the four hypotheses of the frame-cutting theorems hold by themselves: setting `more` never shortens
    the encoding (`p01`), and the last frame's performative is no longer than the middle frames' (`p3`). What
    remains is exactly "the performative fits the frame" (`p1`, `p2`). -/
theorem transfer_fits (hE : EnvOk env) (pre post cpre cpost : List TV) (origMore : Bool)
    (hpre : pre.length = 5) (hcpre : cpre.length = 5)
    (h : TVOk env (.comp ["amqp:transfer:list"]) (.comp "amqp:transfer:list" (pre ++ .leaf (.bool origMore) :: post)))
    (hc : TVOk env (.comp ["amqp:transfer:list"]) (.comp "amqp:transfer:list" (cpre ++ .leaf (.bool origMore) :: cpost)))
    (p : Perfs) (hp : perfsOf env pre post cpre cpost origMore = some p) (B : Nat)
    (h1 : p.p1.length ≤ B) (h2 : p.p2.length < B) : Fits B p := by
  obtain ⟨s, f, hf, hlen⟩ := flagAtB_sound env _ _ _ transfer_more
  revert hp
  -- the case principle of `perfsOf` holds for any environment; `split at hp` has the kernel evaluate this one
  fun_cases perfsOf env pre post cpre cpost origMore with
  | case1 _ p0 p1 p2 p3 e3 e2 e1 e0 =>
    intro hp
    cases hp
    exact ⟨flag_never_shortens hE hf _ pre post (by rw [hlen, hpre]) origMore h _ _ e0 e1, h1, h2,
      flag_never_shortens hE hf _ cpre cpost (by rw [hlen, hcpre]) origMore hc _ _ e3 e2⟩
  | case2 => exact nofun

/-! ## non-vacuity: the four encodings of a transfer (handle 1, delivery-id 7, a tag, format 0) meet the
  hypotheses, with 60 bytes for the performative -/

def fitsPre : List TV :=
  [.leaf (.fixed .uint [0, 0, 0, 1]), .leaf (.fixed .uint [0, 0, 0, 7]), .leaf (.var .binary [1, 2]),
   .leaf (.fixed .uint [0, 0, 0, 0]), .leaf (.bool false)]

def fitsPost : List TV := [.absent, .absent, .leaf (.bool false), .leaf (.bool false), .leaf (.bool false)]
def fitsCPre : List TV := [.leaf (.fixed .uint [0, 0, 0, 1]), .absent, .absent, .absent, .absent]

/-- the four encodings of that transfer: 5 fields as given (the `false` elided, `settled` last), 6
    with `more`; the continuation has the handle alone, or the handle, four nulls and `more` -/
def fitsPerfs : Amqp.Frame.Perfs :=
  { p0 := [0x00, 0x53, 0x14, 0xc0, 0x0b, 0x05, 0x52, 0x01, 0x52, 0x07, 0xa0, 0x02, 0x01, 0x02, 0x43, 0x42],
    p1 := [0x00, 0x53, 0x14, 0xc0, 0x0c, 0x06, 0x52, 0x01, 0x52, 0x07, 0xa0, 0x02, 0x01, 0x02, 0x43, 0x42, 0x41],
    p2 := [0x00, 0x53, 0x14, 0xc0, 0x08, 0x06, 0x52, 0x01, 0x40, 0x40, 0x40, 0x40, 0x41],
    p3 := [0x00, 0x53, 0x14, 0xc0, 0x03, 0x01, 0x52, 0x01] }

theorem fitsPerfs_eq : perfsOf env fitsPre fitsPost fitsCPre fitsPost false = some fitsPerfs := by
  rw [env_eq]; decide +kernel

example : Amqp.Frame.Fits 60 fitsPerfs :=
  transfer_fits env_ok fitsPre fitsPost fitsCPre fitsPost false rfl rfl
    (tvOkB_sound env _ _ (by rw [env_eq]; decide +kernel)) (tvOkB_sound env _ _ (by rw [env_eq]; decide +kernel)) _
    fitsPerfs_eq 60
    (by decide) (by decide)

end Amqp.Typed
