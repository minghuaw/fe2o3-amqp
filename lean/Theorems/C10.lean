/-
  C10 — Reassembly is independent of how the peer fragments a delivery.
-/
import Amqp.Reasm
import Theorems.TxnRoute
-- not used below: imported so that every theorem registered for C10 is reachable from this module
import Theorems.Chunks
import Theorems.KeepTill

namespace Amqp.Reasm

/-- `ReceiverInner::on_incoming_transfer` looks at the abort flag before `more` and before the state -/
theorem source_abort_first : abortFirst = true := by decide

/-- why the order matters: were `more` looked at before the abort flag (`stepBad`), an abort frame that
    carries `more` (the flag means nothing on it) would be appended to the delivery under construction, and
    the next delivery would be merged into the aborted one -/
theorem abort_after_more_disturbs_the_next :
    (let stepBad : Option Inc → Frame → Option Inc × Out := fun st f =>
        if f.more then (match st with
          | some i => (match merge i f with | some i' => (some i', .nothing) | none => (some i, .inconsistent))
          | none => (some { id := f.id, tag := f.tag, fmt := f.fmt, settled := f.settled, buf := [f.payload] }, .nothing))
        else if f.aborted then (none, .nothing) else (none, .nothing)
     (stepBad (some { id := some 1, tag := some [1], fmt := some 0, settled := none, buf := [[7]] })
        ⟨some 1, none, none, none, true, true, [9, 9]⟩).1.isSome) = true := by decide

/-- generated obligation: in `on_incomplete_transfer` the frame is checked before its payload is kept -/
theorem source_checked_before_kept : checkedBeforeKept = true := by decide
theorem source_append_only_pushes : appendOnlyPushes = true := by decide

theorem step_aborted (st : Option Inc) (f : Frame) (ha : f.aborted = true) : step st f = (none, .nothing) := by
  unfold step; rw [source_abort_first, ha]; rfl

/-- a frame that is not an abort, by what `merge` says; `more` then only decides between keeping and handing over -/
theorem step_live (st : Option Inc) (f : Frame) (ha : f.aborted = false) :
    step st f = match st with
      | some i => (match merge i f with
        | some i' =>
          if f.more then (some i', .nothing) else (none, deliver i'.id i'.tag i'.fmt i'.settled i'.buf.flatten)
        | none => (if f.more then some i else none, .inconsistent))
      | none =>
        if f.more then
          (some { id := f.id, tag := f.tag, fmt := f.fmt, settled := f.settled, buf := [f.payload] }, .nothing)
        else (none, deliver f.id f.tag f.fmt f.settled f.payload) := by
  unfold step
  rw [ha, source_checked_before_kept]
  cases f.more <;> cases st <;> rfl

theorem run_append (a : List Frame) : ∀ (st : Option Inc) (b : List Frame),
    run st (a ++ b) = ((run (run st a).1 b).1, (run st a).2 ++ (run (run st a).1 b).2) := by
  induction a with
  | nil => intro st b; rfl
  | cons x xs ih => intro st b; simp only [List.cons_append, run, ih]

/-- a continuation frame that repeats or omits the delivery fields consistently
    with the first frame of the delivery -/
def Agrees (id : Nat) (tag : Bytes) (fmt : Option Nat) (f : Frame) : Prop :=
  (f.id = none ∨ f.id = some id) ∧ (f.tag = none ∨ f.tag = some tag) ∧
  (f.fmt = none ∨ f.fmt = fmt) ∧ f.aborted = false

/-- state after the first frame and some continuation frames: the fields of the
    first frame, the payload so far -/
def Partial (id : Nat) (tag : Bytes) (fmt : Option Nat) (i : Inc) : Prop :=
  i.id = some id ∧ i.tag = some tag ∧ i.fmt = fmt

theorem orAssign_agree {α : Type} [DecidableEq α] (a o : Option α) (h : o = none ∨ o = a) :
    orAssign a o = some a := by
  cases a with
  | none => rcases h with rfl | rfl <;> rfl
  | some x =>
    rcases h with rfl | rfl
    · rfl
    · exact if_pos rfl

theorem orAssign_mem {α : Type} [DecidableEq α] {a b o : Option α} : orAssign a b = some o → o = a ∨ o = b := by
  fun_cases orAssign a b
  · rintro ⟨⟩; exact .inl rfl
  · nofun
  · rintro ⟨⟩; exact .inl rfl
  · rintro ⟨⟩; exact .inr rfl

theorem merge_eq_some {i i' : Inc} {f : Frame} : merge i f = some i' ↔
    ∃ id, orAssign i.id f.id = some id ∧ ∃ tg, orAssign i.tag f.tag = some tg ∧
      ∃ fm, orAssign i.fmt f.fmt = some fm ∧
        { id := id, tag := tg, fmt := fm, settled := mergeSettled i.settled f.settled,
          buf := i.buf ++ [f.payload] } = i' := by
  simp only [merge, Option.bind_eq_bind, Option.bind_eq_some_iff, Option.pure_def, Option.some.injEq]

/-- a frame that agrees leaves the fields of the delivery in progress as they are -/
theorem merge_agrees {id : Nat} {tag : Bytes} {fmt : Option Nat} {i : Inc} {f : Frame}
    (hp : Partial id tag fmt i) (ha : Agrees id tag fmt f) :
    merge i f = some { i with settled := mergeSettled i.settled f.settled, buf := i.buf ++ [f.payload] } := by
  rw [merge, orAssign_agree _ _ (hp.1 ▸ ha.1), orAssign_agree _ _ (hp.2.1 ▸ ha.2.1),
    orAssign_agree _ _ (hp.2.2 ▸ ha.2.2.1)]
  rfl

/-- continuation frames (all with `more`) produce nothing and accumulate the payload -/
theorem run_middle (id : Nat) (tag : Bytes) (fmt : Option Nat) : ∀ (fs : List Frame) (i : Inc),
    Partial id tag fmt i → (∀ f ∈ fs, Agrees id tag fmt f ∧ f.more = true) →
    ∃ i', (run (some i) fs).1 = some i' ∧ Partial id tag fmt i' ∧
      i'.buf = i.buf ++ fs.map (·.payload) ∧ (run (some i) fs).2 = fs.map (fun _ => Out.nothing)
  | [], i, hp, _ => ⟨i, rfl, hp, (List.append_nil _).symm, rfl⟩
  | f :: fs, i, hp, hall => by
    obtain ⟨ha, hm⟩ := hall f List.mem_cons_self
    obtain ⟨i', r1, r2, r3, r4⟩ := run_middle id tag fmt fs
      { i with settled := mergeSettled i.settled f.settled, buf := i.buf ++ [f.payload] } hp
      (fun g hg => hall g (List.mem_cons_of_mem _ hg))
    simp only [run, step_live _ _ ha.2.2.2, merge_agrees hp ha, hm, ↓reduceIte, List.map_cons]
    exact ⟨i', r1, r2, r3.trans (List.append_assoc ..), congrArg _ r4⟩

/-- A delivery that arrives in one frame is handed over as it is. -/
theorem single_frame (id : Nat) (tag : Bytes) (f : Frame) (h1 : f.id = some id) (h2 : f.tag = some tag)
    (hm : f.more = false) (ha : f.aborted = false) :
    step none f = (none, .delivery id tag f.fmt (f.settled.getD false) f.payload) := by
  simp only [step_live none f ha, hm, deliver, h1, h2, Bool.false_eq_true, ↓reduceIte]

/-- However a payload `p` is cut into `n ≥ 1` pieces (empty pieces allowed), with continuation frames
    repeating or omitting delivery-id, delivery-tag and message-format consistently: nothing is handed to
    the application before the last frame, exactly one delivery at the last frame, carrying the first
    frame's id / tag / format and exactly `p`. -/
theorem reasm_once (id : Nat) (tag : Bytes) (fmt : Option Nat) (first : Frame) (mids : List Frame)
    (last : Frame)
    (hf : first.id = some id ∧ first.tag = some tag ∧ first.fmt = fmt ∧ first.more = true ∧
          first.aborted = false)
    (hm : ∀ f ∈ mids, Agrees id tag fmt f ∧ f.more = true)
    (hl : Agrees id tag fmt last ∧ last.more = false) :
    ∃ settled, run none (first :: mids ++ [last]) =
      (none, Out.nothing :: mids.map (fun _ => Out.nothing) ++
        [.delivery id tag fmt settled (first.payload ++ (mids.map (·.payload)).flatten ++ last.payload)]) := by
  obtain ⟨i, r1, r2, r3, r4⟩ := run_middle id tag fmt mids
    { id := first.id, tag := first.tag, fmt := first.fmt, settled := first.settled, buf := [first.payload] }
    ⟨hf.1, hf.2.1, hf.2.2.1⟩ hm
  refine ⟨(mergeSettled i.settled last.settled).getD false, ?_⟩
  simp only [List.cons_append, run, step_live none first hf.2.2.2.2, hf.2.2.2.1, run_append, r1, r4,
    step_live _ last hl.1.2.2.2, hl.2, merge_agrees r2 hl.1, deliver, r2.1, r2.2.1, r2.2.2, r3, ↓reduceIte,
    Bool.false_eq_true, List.flatten_append, List.flatten_cons, List.flatten_nil, List.append_nil,
    List.nil_append, List.append_assoc]

/-- An aborted delivery yields nothing and leaves no state behind: the next delivery is
    reassembled as if it were alone. -/
theorem abort_clean (st : Option Inc) (f : Frame) (h : f.aborted = true) (fs : List Frame) :
    run st (f :: fs) = ((run none fs).1, Out.nothing :: (run none fs).2) := by
  simp only [run, step_aborted st f h]

/-- A continuation frame whose delivery-id contradicts the first frame's never produces a
    (spliced) delivery. -/
theorem contradiction_is_error (i : Inc) (f : Frame) (id id' : Nat) (hi : i.id = some id)
    (hf : f.id = some id') (hne : id ≠ id') (ha : f.aborted = false) :
    (step (some i) f).2 = .inconsistent := by
  have : merge i f = none := by rw [merge, hi, hf, orAssign, if_neg hne]; rfl
  simp only [step_live _ _ ha, this]

/-- C10. A continuation frame whose delivery-id, tag or format contradicts the delivery in progress (`merge`
    fails) and says `more` is reported as an error and leaves that delivery exactly as it was: none of the
    refused frame's bytes is kept. -/
theorem refused_frame_leaves_nothing (i : Inc) (f : Frame) (hm : f.more = true) (ha : f.aborted = false)
    (hc : merge i f = none) : step (some i) f = (some i, .inconsistent) := by
  simp only [step_live _ _ ha, hc, hm, ↓reduceIte]

/-- were the payload kept before the check, the refused frame's bytes would stay in the buffer and the last
    frame would deliver a spliced message -/
example : (let i : Inc := { id := some 1, tag := some [1], fmt := some 0, settled := none, buf := [[7]] }
    ({ i with buf := i.buf ++ [[9, 9]] } : Inc).buf.flatten) = [7, 9, 9] := by decide

theorem source_resume_shape : resumeShape = true := by decide

/-- every tag in sight is the delivery's or absent -/
def TagInv (tag : Bytes) (st : Option Inc) : Prop := ∀ i, st = some i → i.tag = none ∨ i.tag = some tag

theorem stepR_eq_step (tag : Bytes) (st : Option Inc) (f : Frame) (r : Bool)
    (hs : TagInv tag st) (hf : f.tag = none ∨ f.tag = some tag) : stepR st f r = step st f := by
  unfold stepR
  split
  · rcases hf with h | h
    · simp [h]
    · cases st with
      | none => simp
      | some i =>
        rcases hs i rfl with h' | h' <;> simp [h, h']
  · rfl

theorem merge_tag {i i' : Inc} {f : Frame} (h : merge i f = some i') : i'.tag = i.tag ∨ i'.tag = f.tag := by
  obtain ⟨_, _, _, h2, _, _, rfl⟩ := merge_eq_some.mp h
  exact orAssign_mem h2

theorem step_tagInv (tag : Bytes) (st : Option Inc) (f : Frame) (hs : TagInv tag st)
    (hf : f.tag = none ∨ f.tag = some tag) : TagInv tag (step st f).1 := by
  intro j hj
  cases ha : f.aborted with
  | true => rw [step_aborted st f ha] at hj; cases hj
  | false =>
    rw [step_live st f ha] at hj
    -- a state is left only by a frame that says `more`: the merged one, the old one, or a fresh one
    split at hj
    · split at hj
      · rename_i hmg
        split at hj
        · cases hj; exact (merge_tag hmg).elim (fun e => e ▸ hs _ rfl) (fun e => e ▸ hf)
        · cases hj
      · split at hj
        · cases hj; exact hs _ rfl
        · cases hj
    · split at hj
      · cases hj; exact hf
      · cases hj

/-- C10. On the frames of one delivery — the delivery-tag repeated or omitted — whichever of them carry
    the `resume` flag (a delivery transferred again after the link was resumed), what the application
    is handed is what it is handed without the flag: nothing before the last frame, then the whole
    message once (`reasm_once`). -/
theorem resume_flag_immaterial (tag : Bytes) : ∀ (fs : List (Frame × Bool)) (st : Option Inc),
    TagInv tag st → (∀ p ∈ fs, p.1.tag = none ∨ p.1.tag = some tag) →
    runR st fs = run st (fs.map (·.1))
  | [], _, _, _ => rfl
  | (f, r) :: fs, st, hs, hf => by
    have ht := hf (f, r) List.mem_cons_self
    have h2 := resume_flag_immaterial tag fs (step st f).1 (step_tagInv tag st f hs ht)
      (fun p hp => hf p (List.mem_cons_of_mem _ hp))
    simp only [runR, run, stepR_eq_step tag st f r hs ht, h2, List.map_cons]

/-- `reasm_once` for a delivery that is transferred again with `resume` on any of its frames -/
theorem reasm_once_resumed (id : Nat) (tag : Bytes) (fmt : Option Nat) (first : Frame) (mids : List Frame)
    (last : Frame) (flags : List Bool)
    (hf : first.id = some id ∧ first.tag = some tag ∧ first.fmt = fmt ∧ first.more = true ∧
          first.aborted = false)
    (hm : ∀ f ∈ mids, Agrees id tag fmt f ∧ f.more = true)
    (hl : Agrees id tag fmt last ∧ last.more = false)
    (hlen : flags.length = (first :: mids ++ [last]).length) :
    ∃ settled, runR none ((first :: mids ++ [last]).zip flags) =
      (none, Out.nothing :: mids.map (fun _ => Out.nothing) ++
        [.delivery id tag fmt settled (first.payload ++ (mids.map (·.payload)).flatten ++ last.payload)]) := by
  obtain ⟨settled, h⟩ := reasm_once id tag fmt first mids last hf hm hl
  have ht : ∀ g ∈ first :: mids ++ [last], g.tag = none ∨ g.tag = some tag :=
    List.forall_mem_append.mpr ⟨List.forall_mem_cons.mpr ⟨.inr hf.2.1, fun g hg => (hm g hg).1.2.1⟩,
      List.forall_mem_singleton.mpr hl.1.2.1⟩
  exact ⟨settled, by rw [resume_flag_immaterial tag _ none (fun _ hi => nomatch hi)
    (fun p hp => ht p.1 (List.of_mem_zip hp).1), List.map_fst_zip (Nat.le_of_eq hlen.symm), h]⟩

/-- what the other arm does: a last frame with `resume` that names another delivery-tag than the delivery in
    progress is a delivery of its own, and the delivery in progress stays exactly as it was -/
theorem resumed_other_delivery (i : Inc) (f : Frame) (t u : Bytes) (hi : i.tag = some t) (hf : f.tag = some u)
    (hne : u ≠ t) (hm : f.more = false) (ha : f.aborted = false) :
    stepR (some i) f true = (some i, deliver f.id f.tag f.fmt f.settled f.payload) := by
  simp [stepR, source_resume_shape, hm, ha, hi, hf, hne]

/-- why the test is "both tags known and different": with "not both known and equal" the last frame of a
    resumed delivery that leaves the tag out would be handed over alone (and lack id and tag), where `stepR`
    completes the delivery in progress -/
example : (let i : Inc := { id := some 1, tag := some [1], fmt := some 0, settled := none, buf := [[7]] }
    let f : Frame := ⟨none, none, none, none, false, false, [9]⟩
    (stepR (some i) f true).2 = .delivery 1 [1] (some 0) false [7, 9] ∧
    deliver f.id f.tag f.fmt f.settled f.payload = .missingIdOrTag) := by decide

/-- C10, C18. `key` gives back the transfer a routed frame stands for. What the commit replays to link `h`
    out of transaction `id` (its work, in order) goes through the link's reassembly exactly as the frames of
    the post would have, had the peer written them to the link directly — so `reasm_once`, `abort_clean` and
    `refused_frame_leaves_nothing` hold for posted deliveries as they do for plain ones. -/
theorem committed_post_is_the_post_as_written (h id tg : Nat) (key : Nat → Frame)
    (fs : List Amqp.TxnRoute.TFrame) (s : Amqp.TxnRoute.St)
    (ht : s.table h = some (id, some tg))
    (hall : ∀ f ∈ fs, f.handle = h → Amqp.TxnRoute.Continues h id tg f ∧ f.more = true ∧ f.aborted = false)
    (st : Option Inc) :
    run st ((((Amqp.TxnRoute.run s fs).1.work id).filter (·.handle == h)).map (fun g => key g.key)) =
    run st ((((s.work id).filter (·.handle == h)) ++ fs.filter (·.handle == h)).map (fun g => key g.key)) := by
  rw [Amqp.TxnRoute.post_work_in_order h id tg fs s ht hall]

/-! ### non-vacuity -/
example : (run none [⟨some 7, some [1], some 0, none, true, false, [1, 2]⟩, ⟨some 8, none, none, none, true, false, [66]⟩,
    ⟨some 7, none, none, none, false, false, [3]⟩]).2 =
    [.nothing, .inconsistent, .delivery 7 [1] (some 0) false [1, 2, 3]] := by decide

example : (run none [⟨some 7, some [1], some 0, none, true, false, [1, 2]⟩,
    ⟨none, none, none, none, true, false, []⟩, ⟨some 7, none, none, none, false, false, [3]⟩]).2 =
    [.nothing, .nothing, .delivery 7 [1] (some 0) false [1, 2, 3]] := by decide

end Amqp.Reasm
