/-
  C02 (resumed links) — what a sender does with each delivery it still holds unsettled when its link is
  resumed: the decision table of `resume_delivery` (link/resumption.rs), regenerated from the source
  (`Amqp.Gen.Resume`: for every pair of local and remote state, the first arm of the `match` that covers it),
  is the table of the standard (part 2 §2.6.13, the examples with delivery-tags 1–14).
-/
import Amqp.Gen.Resume

namespace Amqp.Resume
open Amqp.Gen.Resume

def states : List String := ["-", "Received", "Accepted", "Rejected", "Released", "Modified", "Declared", "TransactionalState"]

def terminal (s : String) : Bool := s == "Accepted" || s == "Rejected" || s == "Released" || s == "Modified"
def transactional (s : String) : Bool := s == "Declared" || s == "TransactionalState"

/-- the standard's examples, as a function of what the sender (local) and the receiver (remote) have
    recorded for the delivery; `-` = nothing recorded / no entry.  An entry of the receiver without a state
    reads as received(0, 0) (examples 4, 9, 14), which the source does before it looks at the pair. -/
def standard (l r : String) : String :=
  -- transactional states are outside the standard's table; the library gives the delivery up
  if transactional l || transactional r then "abort"
  else if l == "-" then
    (if r == "-" then "resend"                        -- 1
     else if r == "Received" then "resume"            -- 2, 4
     else "settle-with-remote-state")                 -- 3
  else if l == "Received" then
    (if r == "-" then "resend"                        -- 5
     else if r == "Received" then "resume+abort"      -- 6 (the sender's mark is not beyond the receiver's) / 7, 9
     else "settle-with-remote-state")                 -- 8
  else
    (if r == "-" then "settle"                        -- 10
     else if r == "Received" then "abort"             -- 11, 14
     else if l == r then "settle"                     -- 12
     else "restate")                                  -- 13

def expected : List (String × String × String) :=
  states.flatMap (fun l => states.map (fun r => (l, r, standard l r)))

/-- For every combination of what the two ends recorded, the sender resends, resumes, settles with
    the receiver's outcome, settles, restates its own outcome or gives the delivery up exactly as
    the standard's examples say — in particular a delivery both ends hold a terminal outcome for
    is settled when the outcomes agree and the SENDER's outcome is restated when they differ, and
    nothing is resent that the receiver has said it received in full. -/
theorem resume_table_matches_standard : table = expected := by decide +kernel

/-- a receiver's entry without a state is read as received(0, 0); and where both ends have a part of the
    message the delivery is resumed from the receiver's mark exactly when the sender's mark is not beyond it -/
theorem resume_source_facts :
    stateless_remote_entry_is_received_0_0 = true ∧ received_received_resumes_iff_local_le_remote = true := by decide

/-- the table is total: no pair of states is left without an arm -/
theorem resume_table_total : table.all (fun e => e.2.2 != "no-arm" && e.2.2 != "unknown") = true := by decide +kernel

end Amqp.Resume
