-- Root of the theorem library: every module, lemma modules first, by layer (DESIGN.md §4).
import Theorems.Lemmas.List
import Theorems.Lemmas.U32
-- the untyped codec, the specification's encodings, the scanner
import Theorems.Lemmas.Codec
import Theorems.Lemmas.CodecWF
import Theorems.Lemmas.CodecSpec
import Theorems.Lemmas.CodecDec
import Theorems.Lemmas.Lazy
import Theorems.C03
import Theorems.C04
import Theorems.Lazy
-- typed composites, messages, symbols, frame bodies
import Theorems.Lemmas.Typed
import Theorems.Lemmas.Message
import Theorems.Typed
import Theorems.Enums
import Theorems.Message
import Theorems.TransferFits
import Theorems.FrameBody
import Theorems.C03T
import Theorems.C05
-- readers
import Theorems.IoRead
import Theorems.Chunks
import Theorems.KeepTill
import Theorems.C20
-- frames, session windows, reassembly, end to end
import Theorems.Lemmas.Frame
import Theorems.Lemmas.SessionSplit
import Theorems.Lemmas.Session
import Theorems.TxnRoute
import Theorems.C06
import Theorems.C07
import Theorems.C10
import Theorems.C01
-- handles, channels, routing, limits
import Theorems.Lemmas.Slab
import Theorems.C11
import Theorems.C17
import Theorems.Routing
import Theorems.ChanRouting
import Theorems.C11T
-- settlement and link credit
import Theorems.Lemmas.Settle
import Theorems.Lemmas.SettleRuns
import Theorems.Lemmas.SettleKnown
import Theorems.Dispose
import Theorems.Resume
import Theorems.C02
import Theorems.Lemmas.Credit
import Theorems.C08
import Theorems.C09
-- life cycles, failure, cancellation, transactions, SASL
import Theorems.PendingDetach
import Theorems.C12
import Theorems.C13
import Theorems.C14
import Theorems.C15
import Theorems.C16
import Theorems.C18
import Theorems.Lemmas.SaslClean
import Theorems.C19
